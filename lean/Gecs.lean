import Gecs.Model.Storage
import Gecs.Model.World
import Gecs.Model.Query
import Gecs.Model.Macro
import Gecs.Model.Check
import Gecs.Model.History
import Gecs.Model.Bits
import Gecs.Model.Events
import Gecs.Model.Borrow
import Gecs.Driver
import Gecs.Lemmas.Inv
import Gecs.Lemmas.Bits
import Gecs.Lemmas.CheckSound
import Gecs.Lemmas.Events
import Gecs.Lemmas.MacBind
import Gecs.Lemmas.MacCfgQuery
import Gecs.Lemmas.SwapRemove
import Gecs.Lemmas.Grow
import Gecs.Lemmas.Create
import Gecs.Lemmas.Destroy
import Gecs.Lemmas.StorageOps
import Gecs.Lemmas.Reach
import Gecs.Lemmas.Labelled
import Gecs.Lemmas.MacCfg
import Gecs.Lemmas.MacIds
import Gecs.Lemmas.MacCfgWorld
import Gecs.Lemmas.Borrow
import Gecs.Props.C05
import Gecs.Props.C15
import Gecs.Props.C16
import Gecs.Lemmas.StoragePaths
import Gecs.Props.C14
import Gecs.Props.C11
import Gecs.Lemmas.Values
import Gecs.Lemmas.EventLogs
import Gecs.Lemmas.Ownership
import Gecs.Props.C17
import Gecs.Props.C04
import Gecs.Props.C02
import Gecs.Props.C13
import Gecs.Lemmas.WorldOps
import Gecs.Lemmas.LPost
import Gecs.Lemmas.WorldRel
import Gecs.Lemmas.StepRun
import Gecs.Lemmas.Loops
import Gecs.Lemmas.GenTie
import Gecs.Model.Env
import Gecs.Props.C06
import Gecs.Props.C07
import Gecs.Props.C18
import Gecs.Lemmas.WorldHistory
import Gecs.Props.C01
import Gecs.Props.C03
import Gecs.Props.C08
import Gecs.Props.C09
import Gecs.Lemmas.Robust
import Gecs.Props.C10
import Gecs.Props.C12
import Gecs.Props.C19
import Gecs.Props.Histories
import Gecs.Props.C04Histories
import Gecs.Model.Faults
import Gecs.Lemmas.Faults
import Gecs.Props.Faults
import Gecs.Model.FaultHistory
import Gecs.Lemmas.FaultHistories
import Gecs.Props.FaultHistories
import Gecs.Gen.Exprs
import Gecs.Lemmas.GenExprs
import Gecs.Props.GenExprs
import Gecs.Lemmas.GenVersion
import Gecs.Model.Steps
import Gecs.Gen.Steps
import Gecs.Lemmas.GenSteps
import Gecs.Lemmas.GenStepsApi
import Gecs.Props.GenSteps
import Gecs.Model.ResolveSteps
import Gecs.Model.CloneSteps
import Gecs.Model.PushSteps
import Gecs.Model.KeySteps
import Gecs.Lemmas.GenResolve
import Gecs.Lemmas.GenClone
import Gecs.Lemmas.GenPush
import Gecs.Lemmas.GenKeys
import Gecs.Props.GenResolve
import Gecs.Props.GenClone
import Gecs.Props.GenPush
import Gecs.Props.GenKeys
import Gecs.Model.InitSteps
import Gecs.Lemmas.GenInit
import Gecs.Props.GenInit
import Gecs.Model.IterSteps
import Gecs.Lemmas.GenIter
import Gecs.Props.GenIter
import Gecs.Model.LoopSteps
import Gecs.Lemmas.GenLoops
import Gecs.Props.GenLoops
import Gecs.Model.BindSteps
import Gecs.Model.FindSteps
import Gecs.Model.MemSteps
import Gecs.Lemmas.GenBind
import Gecs.Lemmas.GenFind
import Gecs.Lemmas.GenMem
import Gecs.Props.GenBind
import Gecs.Props.GenFind
import Gecs.Props.GenMem
import Gecs.Model.FreeListSteps
import Gecs.Lemmas.GenFreeList
import Gecs.Props.GenFreeList
import Gecs.Model.DispatchSteps
import Gecs.Lemmas.GenDispatch
import Gecs.Props.GenDispatch
import Gecs.Model.AccessSteps
import Gecs.Lemmas.GenAccess
import Gecs.Props.GenAccess
import Gecs.Model.EventIterSteps
import Gecs.Lemmas.GenEventIter
import Gecs.Props.GenEventIter
