/-
Fault model: what happens to the values of a world when a user `Clone::clone` / `Drop::drop`
PANICS in the middle of `world.clone()` / of dropping a world.

Generic over the value type `α` and a predicate `isZ : α → Bool` ("zero-sized": its Clone/Drop
never faults, it is only counted).  Core Lean only, structural recursion only (so `decide`
evaluates everything), computable.

* `cloneFault isZ perArch k` : `perArch` = per archetype (declaration order) the values in CLONE
  order (entity-major, column-minor).  The `k`-th (0-based) clone of a non-zero-sized value panics.
* `dropFault  isZ perArch k` : `perArch` = per archetype the values in DROP order (column-major).
  The `k`-th (0-based) drop of a non-zero-sized value panics after having been registered.

`cloneFaultCounts` / `dropFaultDriver` are a second, accumulator-passing formulation that returns
the counts a trace driver compares with the implementation's registry (`Gecs/Driver.lean` itself
calls `cloneFault` / `dropFault` at `isZ v := v.tok = 0` and counts their lists);
`cloneFault_counts` / `dropFault_driver` prove that the list-valued model agrees with them for
all inputs.  The structural theorems are in `Gecs/Lemmas/Faults.lean`.
-/
import Gecs.Model.World

namespace Gecs

/-- Result of a faulting `world.clone()` / world drop.
`dropped`: values (clone: clones of these source values) whose `Drop` ran, in order;
`leaked` : values (clone: clones of these source values) that exist and are never dropped. -/
structure FaultOutcome (α : Type) where
  dropped : List α
  leaked : List α
deriving Repr, DecidableEq

/-- Number of non-zero-sized values of a list (the ones that count towards the fault countdown). -/
def nzCount (isZ : α → Bool) (l : List α) : Nat := (l.filter (fun v => !isZ v)).length

/-- Number of zero-sized values of a list. -/
def zCount (isZ : α → Bool) (l : List α) : Nat := (l.filter isZ).length

/-! ### `world.clone()` with a panicking `Clone::clone` -/

/-- The values of `l` strictly before its `k`-th (0-based) non-zero-sized value (zero-sized values
met on the way are included); all of `l` when there is no such value. -/
def takeBeforeFault (isZ : α → Bool) : List α → Nat → List α
  | [], _ => []
  | v :: l, k =>
    if isZ v then v :: takeBeforeFault isZ l k
    else match k with
      | 0 => []
      | k + 1 => v :: takeBeforeFault isZ l k

/-- `none`: no fault (`k` is at least the number of non-zero-sized values).
`some o`: `o.dropped` = all values of the archetypes cloned completely before the fault (their
clones are dropped during the unwind), `o.leaked` = the values of the partially cloned archetype
that precede the faulting one (their clones are leaked). -/
def cloneFault (isZ : α → Bool) : List (List α) → Nat → Option (FaultOutcome α)
  | [], _ => none
  | a :: rest, k =>
    if k < nzCount isZ a then some ⟨[], takeBeforeFault isZ a k⟩
    else (cloneFault isZ rest (k - nzCount isZ a)).map (fun o => ⟨a ++ o.dropped, o.leaked⟩)

/-- Helper of `cloneFaultCounts`: `(t, z)` plus the non-zst / zst counts of the values of the list
before its `k`-th non-zero-sized one. -/
def cloneFaultPre (isZ : α → Bool) : List α → Nat → Nat → Nat → Nat × Nat
  | [], _, t, z => (t, z)
  | v :: l', k, t, z =>
    if isZ v then cloneFaultPre isZ l' k t (z + 1)
    else if k = 0 then (t, z) else cloneFaultPre isZ l' (k - 1) (t + 1) z

/-- Counts only: `(non-zst count of the complete archetypes, their zst count, non-zst count of the
partial prefix, its zst count)`, on top of the accumulators. -/
def cloneFaultCounts (isZ : α → Bool) : List (List α) → Nat → Nat → Nat → Nat × Nat × Nat × Nat
  | [], _, doneToks, doneZ => (doneToks, doneZ, 0, 0)
  | a :: rest, k, doneToks, doneZ =>
    let nz := (a.filter (fun v => !isZ v)).length
    if k < nz then
      let (pt, pz) := cloneFaultPre isZ a k 0 0
      (doneToks, doneZ, pt, pz)
    else cloneFaultCounts isZ rest (k - nz) (doneToks + nz) (doneZ + (a.length - nz))

/-! ### dropping a world with a panicking `Drop::drop` -/

/-- Split `l` right AFTER its `k`-th (0-based) non-zero-sized value: `(prefix up to and including
it, rest)`; `(l, [])` when there is no such value. -/
def dropCut (isZ : α → Bool) : List α → Nat → List α × List α
  | [], _ => ([], [])
  | v :: l, k =>
    if isZ v then ((v :: (dropCut isZ l k).1), (dropCut isZ l k).2)
    else match k with
      | 0 => ([v], l)
      | k + 1 => ((v :: (dropCut isZ l k).1), (dropCut isZ l k).2)

/-- `none`: no fault.  `some o`: `o.dropped` = everything of the archetypes before the faulting
one, then the prefix of the faulting archetype up to AND INCLUDING the faulting value, then
everything of the archetypes after it (dropped during the unwind); `o.leaked` = the rest of the
faulting archetype. -/
def dropFault (isZ : α → Bool) : List (List α) → Nat → Option (FaultOutcome α)
  | [], _ => none
  | a :: rest, k =>
    if k < nzCount isZ a then some ⟨(dropCut isZ a k).1 ++ rest.flatten, (dropCut isZ a k).2⟩
    else (dropFault isZ rest (k - nzCount isZ a)).map (fun o => ⟨a ++ o.dropped, o.leaked⟩)

/-- Helper of `dropFaultDriver`: `dropCut` with the prefix appended to an accumulator. -/
def dropFaultCut (isZ : α → Bool) : List α → Nat → List α → List α × List α
  | [], _, acc => (acc, [])
  | v :: l', k, acc =>
    if isZ v then dropFaultCut isZ l' k (acc ++ [v])
    else if k = 0 then (acc ++ [v], l') else dropFaultCut isZ l' (k - 1) (acc ++ [v])

/-- `(dropped, leakT, leakZ)`: the dropped values and the non-zst / zst counts of the leaked
ones, on top of the accumulators; `hit` says that the fault lies in an earlier archetype. -/
def dropFaultDriver (isZ : α → Bool) :
    List (List α) → Nat → Bool → List α → Nat → Nat → List α × Nat × Nat
  | [], _, _, dropped, leakT, leakZ => (dropped, leakT, leakZ)
  | a :: rest, k, hit, dropped, leakT, leakZ =>
    let nz := (a.filter (fun v => !isZ v)).length
    if hit || k ≥ nz then dropFaultDriver isZ rest (k - nz) hit (dropped ++ a) leakT leakZ
    else
      let (dr, lk) := dropFaultCut isZ a k []
      dropFaultDriver isZ rest 0 true (dropped ++ dr)
        (leakT + (lk.filter (fun v => !isZ v)).length) (leakZ + (lk.filter isZ).length)

/-! ### the inputs, from a world (same expressions as in Driver.lean) -/

/-- Per archetype, the values in clone order: entity-major, column-minor (`cloneOrder`). -/
def World.clonePerArch (w : World α) : List (List α) :=
  w.archs.map (fun s => (List.range s.len).flatMap (fun i => s.cols.filterMap (fun c => c[i]?)))

/-- Per archetype, the values in drop order: column-major (`worldVals`, `dropStorage`). -/
def World.dropPerArch (w : World α) : List (List α) :=
  w.archs.map (fun s => s.cols.flatMap (fun c => c.take s.len))

/-! ### agreement with the accumulator-passing formulation -/

theorem cloneFaultPre_eq (isZ : α → Bool) (l : List α) (k t z : Nat) :
    cloneFaultPre isZ l k t z =
      (t + nzCount isZ (takeBeforeFault isZ l k), z + zCount isZ (takeBeforeFault isZ l k)) := by
  induction l generalizing k t z with
  | nil => rfl
  | cons v l ih =>
    unfold cloneFaultPre takeBeforeFault
    cases hv : isZ v with
    | true => simp [ih, nzCount, zCount, hv]; omega
    | false =>
      cases k with
      | zero => simp [nzCount, zCount]
      | succ k => simp [ih, nzCount, zCount, hv]; omega

theorem length_eq_nz_add_z (isZ : α → Bool) (l : List α) :
    l.length = nzCount isZ l + zCount isZ l := by
  rw [List.length_eq_countP_add_countP isZ, Nat.add_comm]
  simp [nzCount, zCount, List.countP_eq_length_filter]

theorem nzCount_append (isZ : α → Bool) (l₁ l₂ : List α) :
    nzCount isZ (l₁ ++ l₂) = nzCount isZ l₁ + nzCount isZ l₂ := by
  simp [nzCount]

theorem zCount_append (isZ : α → Bool) (l₁ l₂ : List α) :
    zCount isZ (l₁ ++ l₂) = zCount isZ l₁ + zCount isZ l₂ := by
  simp [zCount]

theorem cloneFaultCounts_eq (isZ : α → Bool) (perArch : List (List α)) (k dT dZ : Nat) :
    cloneFaultCounts isZ perArch k dT dZ =
      match cloneFault isZ perArch k with
      | some o => (dT + nzCount isZ o.dropped, dZ + zCount isZ o.dropped,
                   nzCount isZ o.leaked, zCount isZ o.leaked)
      | none => (dT + nzCount isZ perArch.flatten, dZ + zCount isZ perArch.flatten, 0, 0) := by
  induction perArch generalizing k dT dZ with
  | nil => rfl
  | cons a rest ih =>
    have e : cloneFaultCounts isZ (a :: rest) k dT dZ =
        if k < nzCount isZ a then (dT, dZ, cloneFaultPre isZ a k 0 0)
        else cloneFaultCounts isZ rest (k - nzCount isZ a) (dT + nzCount isZ a)
          (dZ + (a.length - nzCount isZ a)) := rfl
    rw [e, cloneFault]
    by_cases hk : k < nzCount isZ a
    · rw [if_pos hk, if_pos hk, cloneFaultPre_eq isZ a k 0 0, Nat.zero_add, Nat.zero_add]; rfl
    · rw [if_neg hk, if_neg hk, ih, length_eq_nz_add_z isZ a, Nat.add_sub_cancel_left]
      cases cloneFault isZ rest (k - nzCount isZ a) with
      | none =>
        show _ = (dT + nzCount isZ (a ++ rest.flatten), dZ + zCount isZ (a ++ rest.flatten), 0, 0)
        simp only [nzCount_append, zCount_append, Nat.add_assoc]
      | some o =>
        show _ = (dT + nzCount isZ (a ++ o.dropped), dZ + zCount isZ (a ++ o.dropped), _, _)
        simp only [nzCount_append, zCount_append, Nat.add_assoc]

/-- The four numbers of `cloneFaultCounts` are the non-zst / zst counts of the model's `dropped`
and `leaked` lists (fault case), for all inputs. -/
theorem cloneFault_counts (isZ : α → Bool) (perArch : List (List α)) (k : Nat)
    (o : FaultOutcome α) (h : cloneFault isZ perArch k = some o) :
    cloneFaultCounts isZ perArch k 0 0 =
      ((o.dropped.filter (fun v => !isZ v)).length, (o.dropped.filter isZ).length,
       (o.leaked.filter (fun v => !isZ v)).length, (o.leaked.filter isZ).length) := by
  rw [cloneFaultCounts_eq, h]; simp [nzCount, zCount]

/-- The no-fault case (which the driver excludes by testing `k < expected.length` first):
everything is reported as complete. -/
theorem cloneFault_counts_none (isZ : α → Bool) (perArch : List (List α)) (k : Nat)
    (h : cloneFault isZ perArch k = none) :
    cloneFaultCounts isZ perArch k 0 0 =
      ((perArch.flatten.filter (fun v => !isZ v)).length, (perArch.flatten.filter isZ).length,
       0, 0) := by
  rw [cloneFaultCounts_eq, h]; simp [nzCount, zCount]

theorem dropFaultCut_eq (isZ : α → Bool) (l : List α) (k : Nat) (acc : List α) :
    dropFaultCut isZ l k acc = (acc ++ (dropCut isZ l k).1, (dropCut isZ l k).2) := by
  induction l generalizing k acc with
  | nil => simp [dropFaultCut, dropCut]
  | cons v l ih =>
    unfold dropFaultCut dropCut
    cases hv : isZ v with
    | true => simp [ih]
    | false =>
      cases k with
      | zero => simp
      | succ k => simp [ih]

/-- Once the fault has been hit (`hit = true`), everything else is dropped. -/
theorem dropFaultDriver_hit (isZ : α → Bool) (archs : List (List α)) (k : Nat)
    (dr : List α) (lT lZ : Nat) :
    dropFaultDriver isZ archs k true dr lT lZ = (dr ++ archs.flatten, lT, lZ) := by
  induction archs generalizing k dr with
  | nil => simp [dropFaultDriver]
  | cons a rest ih => simp [dropFaultDriver, ih]

theorem dropFaultDriver_eq (isZ : α → Bool) (perArch : List (List α)) (k : Nat)
    (dr : List α) (lT lZ : Nat) :
    dropFaultDriver isZ perArch k false dr lT lZ =
      match dropFault isZ perArch k with
      | some o => (dr ++ o.dropped, lT + nzCount isZ o.leaked, lZ + zCount isZ o.leaked)
      | none => (dr ++ perArch.flatten, lT, lZ) := by
  induction perArch generalizing k dr lT lZ with
  | nil => simp [dropFaultDriver, dropFault]
  | cons a rest ih =>
    rw [dropFaultDriver, dropFault]
    -- the definition counts by `filter`; through `nzCount` the test matches `dropFault`'s and `ih`
    show (if (false || decide (k ≥ nzCount isZ a)) = true
      then dropFaultDriver isZ rest (k - nzCount isZ a) false (dr ++ a) lT lZ else _) = _
    by_cases hk : k < nzCount isZ a
    · rw [if_neg (by simpa using hk), if_pos hk, dropFaultCut_eq]
      simp [dropFaultDriver_hit, nzCount, zCount]
    · rw [if_pos (by simpa using hk), if_neg hk, ih]
      cases dropFault isZ rest (k - nzCount isZ a) <;> simp

/-- `dropFaultDriver` (called with `hit = false`, empty accumulators) computes exactly the
model's `dropped` list and the non-zst / zst counts of its `leaked` list (fault case). -/
theorem dropFault_driver (isZ : α → Bool) (perArch : List (List α)) (k : Nat)
    (o : FaultOutcome α) (h : dropFault isZ perArch k = some o) :
    dropFaultDriver isZ perArch k false [] 0 0 =
      (o.dropped, (o.leaked.filter (fun v => !isZ v)).length, (o.leaked.filter isZ).length) := by
  rw [dropFaultDriver_eq, h]; simp [nzCount, zCount]

/-- No-fault case (which the driver excludes by testing `k < nd` first): all dropped. -/
theorem dropFault_driver_none (isZ : α → Bool) (perArch : List (List α)) (k : Nat)
    (h : dropFault isZ perArch k = none) :
    dropFaultDriver isZ perArch k false [] 0 0 = (perArch.flatten, 0, 0) := by
  rw [dropFaultDriver_eq, h]; simp

end Gecs
