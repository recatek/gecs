/-
The expansion of `ecs_find!` / `ecs_find_borrow!`, from the skeleton extracted from
macros/src/generate/query.rs (`Gen.findT`), IS the model's `findQuery` — for every world, query,
key (typed, dynamic, direct; live, stale, forged) and closure.
-/
import Gecs.Gen.Steps

namespace Gecs

variable {α σ ρ : Type}

theorem gen_find_query (cfg : Cfg) (q : Query) (f : Closure σ α ρ) (h : Handle) (st : σ) (w : World α) :
    findQueryT cfg Gen.findT q f h st w = findQuery cfg q f h st w := by
  unfold findQueryT findQuery
  rw [if_pos (show (Gen.findT.defaultNone && Gen.findT.expectInvalid) = true from rfl)]
  cases routeWorld cfg w.ids h with
  | absent => rfl
  | panic m => rfl
  | arch a k =>
    dsimp only
    cases q.find? (fun qa => qa.a == a) with
    | none => rfl
    | some qa =>
      dsimp only
      cases w.archs[a]? with
      | none => rfl
      | some s =>
        dsimp only
        -- whichever arm is taken, its statements bind the closure and the archetype and read the
        -- archetype's current version, and its tail is `view(key).map(closure)`
        obtain ⟨e, hpre, hc, ha, hv⟩ : ∃ e,
            qsRun cfg s (if h.kind.isDirect then Gen.findT.armDirect else Gen.findT.armTyped) {} = .ok e
              ∧ e.closure = true ∧ e.arch = true ∧ e.version = some s.version := by
          cases h.kind.isDirect <;> exact ⟨_, rfl, rfl, rfl, rfl⟩
        have htail : (if h.kind.isDirect then Gen.findT.tailDirect else Gen.findT.tailTyped)
            = .fetchMapClosure := by
          cases h.kind.isDirect <;> rfl
        simp only [runFindArm, hpre, htail, hc, ha, hv]
        cases storageResolve cfg s h.kind.isDirect k with
        | ub m => rfl
        | panic m s' => rfl
        | ok r s' =>
          cases r with
          | none => rfl
          | some d =>
            dsimp only
            cases slicesValid cfg s with
            | false => rfl
            | true =>
              simp only [if_true]
              cases bindArgs (w.ids.getD a ID_RANGE) s s.version d qa.params with
              | none => rfl
              | some args =>
                dsimp only
                cases f st args <;> rfl

end Gecs
