/-
The six `StorageCanResolve` methods, run from their extracted statements (with the lookups and
`force_destroy` run from theirs), are the model's `resolveForEnt`, `toDirectEnt`, `destroyEnt`,
`resolveForDirect`, `toDirectDirect`, `destroyDirect` in every invariant state, for every key.
-/
import Gecs.Lemmas.GenStepsApi
import Gecs.Lemmas.GenResolve

namespace Gecs

variable {α : Type}

def Gen.lookups : Lookups :=
  { slots := Gen.slotBodies, resolveEntity := Gen.resolveEntitySteps, resolveDirect := Gen.resolveDirectSteps,
    destroy := Gen.forceDestroySteps }

/-- The statements of `resolve_for` behind the lookup, whatever the lookup (`r`) answered: both key
kinds share them.  The left side is what `runW` unfolds to on `.bindDenseFromResolve… :: rest` with `r`
the lookup's answer, so the two ties below are this lemma at `r :=` the extracted lookup. -/
theorem runW_resolveFor (cfg : Cfg) (L : Lookups) (k : SKey) (s : Storage α)
    (r : Out (Storage α) (Option (Nat × Nat))) :
    (match r with
      | .ok (some (_, d)) _ =>
        runW cfg L k [.bindDenseUsize, .assumeLenLeMax, .assumeLenGeDense, .returnSomeDenseUsize] s
          { dense := some d }
      | .ok none _ => .ok none s
      | .panic m s' => .panic m s'
      | .ub m => .ub m)
      = (resolveForAfter cfg s r).mapSome .dense := by
  match r with
  | .ok (some (_, d)) _ =>
    simp only [runW, resolveForAfter]
    by_cases h1 : s.len ≤ cfg.maxCap
    · by_cases h2 : d ≤ s.len
      · rw [if_pos h1, if_pos h2, if_pos ⟨h1, h2⟩]; rfl
      · rw [if_pos h1, if_neg h2, if_neg (fun h : _ ∧ _ => h2 h.2)]; cases cfg.debug <;> rfl
    · rw [if_neg h1, if_neg (fun h : _ ∧ _ => h1 h.1)]; cases cfg.debug <;> rfl
  | .ok none _ => rfl
  | .panic _ _ => rfl
  | .ub _ => rfl

theorem gen_keys_resolve_for_ent (cfg : Cfg) (s : Storage α) (e : Ent) (hle : s.len ≤ s.capacity) :
    execKey cfg Gen.lookups Gen.entResolveFor s (.ent e) = (resolveForEnt cfg s e).mapSome .dense := by
  rw [resolveForEnt_eq, ← gen_steps_resolve_entity cfg s e hle]
  exact runW_resolveFor cfg Gen.lookups (.ent e) s _

theorem gen_keys_resolve_for_direct (cfg : Cfg) (s : Storage α) (d v : Nat) (hle : s.len ≤ s.capacity) :
    execKey cfg Gen.lookups Gen.dirResolveFor s (.direct d v) = (resolveForDirect cfg s d v).mapSome .dense := by
  rw [resolveForDirect_eq, ← gen_steps_resolve_direct cfg s d v hle]
  exact runW_resolveFor cfg Gen.lookups (.direct d v) s _

theorem gen_keys_to_direct_ent (cfg : Cfg) (s : Storage α) (e : Ent) (hle : s.len ≤ s.capacity) :
    execKey cfg Gen.lookups Gen.entToDirect s (.ent e)
      = (toDirectEnt cfg s e).mapSome (fun p => .direct p.1 p.2) := by
  unfold execKey Gen.entToDirect toDirectEnt
  simp only [runW, lookupEntity, Gen.lookups, gen_steps_resolve_entity cfg s e hle]
  rcases resolveEntity cfg s e with ⟨_ | ⟨_, d⟩, _⟩ | _ | _ <;> rfl

/-- The repaired `to_direct(EntityDirect)` (F4): validated, and handed back unchanged. -/
theorem gen_keys_to_direct_direct (cfg : Cfg) (s : Storage α) (d v : Nat) (hle : s.len ≤ s.capacity) :
    execKey cfg Gen.lookups Gen.dirToDirect s (.direct d v)
      = (toDirectDirect cfg s d v).mapSome (fun p => .direct p.1 p.2) := by
  unfold execKey Gen.dirToDirect toDirectDirect
  simp only [runW, lookupDirect, Gen.lookups, gen_steps_resolve_direct cfg s d v hle]
  rcases resolveDirect cfg s d v with ⟨_ | _, _⟩ | _ | _ <;> rfl

/-- `destroyAt` on the answer `r` of either lookup is what `destroyEntS` / `destroyDirectS` do with it
(there `L` is `Gen.lookups`), up to the `WVal` wrapper. -/
theorem destroyAt_eq (cfg : Cfg) (L : Lookups) (s : Storage α) (r : Out (Storage α) (Option (Nat × Nat))) :
    destroyAt cfg L s r
      = Out.mapSome WVal.comps
        (match r with
        | .ok (some (si, d)) _ =>
          (match execDestroy cfg L.slots L.destroy s si d with
          | .ok row s' => .ok (some row) s'
          | .panic m s' => .panic m s'
          | .ub m => .ub m)
        | .ok none _ => .ok none s
        | .panic m s' => .panic m s'
        | .ub m => .ub m) := by
  match r with
  | .ok (some (si, d)) _ =>
    unfold destroyAt
    dsimp only
    cases execDestroy cfg L.slots L.destroy s si d <;> rfl
  | .ok none _ => rfl
  | .panic _ _ => rfl
  | .ub _ => rfl

theorem gen_keys_destroy_ent (cfg : Cfg) (s : Storage α) (e : Ent) (h : Inv cfg s) :
    Out.same (execKey cfg Gen.lookups Gen.entDestroy s (.ent e)) ((destroyEnt cfg s e).mapSome .comps) := by
  have : execKey cfg Gen.lookups Gen.entDestroy s (.ent e) = (destroyEntS cfg s e).mapSome .comps := by
    unfold destroyEntS
    rw [← gen_steps_resolve_entity cfg s e h.lenCap]
    exact destroyAt_eq cfg Gen.lookups s _
  rw [this]
  exact Out.same_mapSome _ (gen_steps_destroy_ent cfg s e h)

theorem gen_keys_destroy_direct (cfg : Cfg) (s : Storage α) (d v : Nat) (h : Inv cfg s) :
    Out.same (execKey cfg Gen.lookups Gen.dirDestroy s (.direct d v)) ((destroyDirect cfg s d v).mapSome .comps) := by
  have : execKey cfg Gen.lookups Gen.dirDestroy s (.direct d v) = (destroyDirectS cfg s d v).mapSome .comps := by
    unfold destroyDirectS
    rw [← gen_steps_resolve_direct cfg s d v h.lenCap]
    exact destroyAt_eq cfg Gen.lookups s _
  rw [this]
  exact Out.same_mapSome _ (gen_steps_destroy_direct cfg s d v h)

end Gecs
