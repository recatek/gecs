/-
`Archetype::iter` / `iter_mut` from their extracted statements: a plain pass (call `next` until
`None`) over the iterator built by the extracted constructor literal yields, for every storage
whose dense arrays are initialised up to `len`, exactly the rows `0, 1, …, len-1` in order —
each live entity once, paired with its own handle and its own component values — and then
`None`.  No bound on `len` or on the number of columns.
-/
import Gecs.Gen.Steps
import Gecs.Lemmas.GenSteps

namespace Gecs

variable {α : Type}

/-- The shape both extracted `next` bodies must have for the theorems below (checked against the
generated lists by `rfl` in `gen_iter_next_shape`). -/
def nextShape : List IStep :=
  [.ifExhaustedReturnNone, .bindResult, .advanceEntity, .advanceColumns, .decRemaining, .returnSomeResult]

theorem filterMap_eq_map_of_some {β γ : Type} (f : β → Option γ) (g : β → γ) :
    ∀ (l : List β), (∀ x ∈ l, f x = some (g x)) → l.filterMap f = l.map g := by
  intro l
  induction l with
  | nil => intro _; rfl
  | cons a t ih =>
    intro h
    have ha := h a List.mem_cons_self
    simp [ha, ih (fun x hx => h x (List.mem_cons_of_mem _ hx))]

theorem ownRow_some (s : Storage α) (hok : DenseOk s) {i : Nat} (hi : i < s.len) :
    ∃ e, s.ents[i]? = some e ∧ ownRow s i = some (e, s.cols.filterMap (fun c => c[i]?)) := by
  have hl : i < s.ents.length := by rw [hok.1]; exact hi
  exact ⟨s.ents[i], by simp [hl], by simp [ownRow, hl]⟩

theorem next_step (s : Storage α) (hok : DenseOk s) (i r : Nat) (hir : i + (r + 1) = s.len) :
    ∃ x, ownRow s i = some x ∧ nextS nextShape s ⟨r + 1, i, i⟩ = .some x ⟨r, i + 1, i + 1⟩ := by
  have hi : i < s.len := by omega
  obtain ⟨e, he, hrow⟩ := ownRow_some s hok hi
  have hall : (s.cols.all (fun c => decide (i < c.length))) = true := by
    simp only [List.all_eq_true, decide_eq_true_eq]
    intro c hc; rw [hok.2 c hc]; exact hi
  exact ⟨_, hrow, by simp [nextS, nextShape, runI, he, hall]⟩

theorem next_end (s : Storage α) (i : Nat) : nextS nextShape s ⟨0, i, i⟩ = .none := by
  simp [nextS, nextShape, runI]

theorem drain_spec (s : Storage α) (hok : DenseOk s) :
    ∀ (r i fuel : Nat), i + r = s.len → r < fuel →
      drain nextShape s fuel ⟨r, i, i⟩ = some ((List.range' i r).filterMap (ownRow s))
      ∧ ((List.range' i r).filterMap (ownRow s)).length = r := by
  intro r
  induction r with
  | zero =>
    intro i fuel _ hf
    cases fuel with
    | zero => omega
    | succ f => simp [drain, next_end]
  | succ r ih =>
    intro i fuel hir hf
    cases fuel with
    | zero => omega
    | succ f =>
      obtain ⟨x, hx, hn⟩ := next_step s hok i r hir
      obtain ⟨h1, h2⟩ := ih (i + 1) f (by omega) (by omega)
      constructor
      · simp [drain, hn, h1, List.range'_succ, hx]
      · simp [List.range'_succ, hx, h2]

theorem gen_iter_next_shape :
    Gen.iterNextSteps = nextShape ∧ Gen.iterMutNextSteps = nextShape
    ∧ Gen.iterImplMethods = ["next"] ∧ Gen.iterMutImplMethods = ["next"] := by
  refine ⟨rfl, rfl, rfl, rfl⟩

theorem gen_iter_ctor (s : Storage α) :
    mkIter Gen.iterFields s = some ⟨s.len, 0, 0⟩ ∧ mkIter Gen.iterMutFields s = some ⟨s.len, 0, 0⟩ := by
  constructor <;> simp [mkIter, Gen.iterFields, Gen.iterMutFields, ifields]

/-- C06 / C02 for `Archetype::iter` and `iter_mut`, from the statements of the current source. -/
theorem gen_iter_visits_each_once (s : Storage α) (hok : DenseOk s) :
    (∃ it, mkIter Gen.iterFields s = some it
        ∧ drain Gen.iterNextSteps s (s.len + 1) it = some ((List.range s.len).filterMap (ownRow s)))
    ∧ (∃ it, mkIter Gen.iterMutFields s = some it
        ∧ drain Gen.iterMutNextSteps s (s.len + 1) it = some ((List.range s.len).filterMap (ownRow s)))
    ∧ ((List.range s.len).filterMap (ownRow s)).length = s.len
    ∧ (∀ i, i < s.len → ∃ e, s.ents[i]? = some e
          ∧ ((List.range s.len).filterMap (ownRow s))[i]? = some (e, s.cols.filterMap (fun c => c[i]?))) := by
  obtain ⟨hs1, hs2, _, _⟩ := gen_iter_next_shape
  obtain ⟨hc1, hc2⟩ := gen_iter_ctor s
  obtain ⟨hd, hlen⟩ := drain_spec s hok s.len 0 (s.len + 1) (by omega) (by omega)
  rw [← List.range_eq_range'] at hd hlen
  refine ⟨⟨_, hc1, by rw [hs1]; exact hd⟩, ⟨_, hc2, by rw [hs2]; exact hd⟩, hlen, ?_⟩
  intro i hi
  obtain ⟨e, he, hrow⟩ := ownRow_some s hok hi
  refine ⟨e, he, ?_⟩
  have hmap : (List.range s.len).filterMap (ownRow s)
      = (List.range s.len).map (fun j => (ownRow s j).getD (e, [])) := by
    apply filterMap_eq_map_of_some
    intro j hj
    have hjl : j < s.len := List.mem_range.mp hj
    obtain ⟨_, _, h⟩ := ownRow_some s hok hjl
    simp [h]
  rw [hmap]
  simp [hi, hrow]

end Gecs
