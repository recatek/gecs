/-
C17, iterator half: the generated world-level event iterator (`EcsEventIterator`, model
`EvIter` in Model/Events.lean) yields exactly the concatenation of the per-archetype logs, in
archetype declaration order, and reports an exact `size_hint` at every position.

`EvIter.Ok` is the invariant of the iterator state (`which` stays inside the archetype range,
every archetype before `which` is exhausted), kept by the two updates `next` makes (`Ok.set`,
`Ok.advance`); `EvIter.remaining` is the abstract "items not yet yielded".  `next_spec` is the
one-step refinement, `sizeHint_exact` the hint, `drain_spec` the whole run from any state
satisfying the invariant, with the hint recorded before every call of `next`; its instance at
`EvIter.start` is `C17_world_iterator` (Props/C17.lean).
-/
import Gecs.Model.Events

namespace Gecs

theorem flatten_eq_drop_of_prefix_nil {β : Type} (l : List (List β)) (s : Nat)
    (h : ∀ i, i < s → l.getD i [] = []) : l.flatten = (l.drop s).flatten := by
  induction l generalizing s with
  | nil => simp
  | cons a l ih =>
    cases s with
    | zero => rfl
    | succ s =>
      have ha : a = [] := h 0 (by omega)
      rw [List.drop_succ_cons, List.flatten_cons, ha, List.nil_append]
      exact ih s fun i hi => h (i + 1) (by omega)

theorem flatten_eq_cons_set {β : Type} (l : List (List β)) (s : Nat) (x : β) (xs : List β)
    (h : ∀ i, i < s → l.getD i [] = []) (hs : l.getD s [] = x :: xs) :
    l.flatten = x :: (l.set s xs).flatten := by
  induction l generalizing s with
  | nil => simp at hs
  | cons a l ih =>
    cases s with
    | zero => rw [show a = x :: xs from hs]; rfl
    | succ s =>
      have ha : a = [] := h 0 (by omega)
      rw [List.set_cons_succ, List.flatten_cons, List.flatten_cons, ha]
      exact ih s (fun i hi => h (i + 1) (by omega)) hs

/-- The emitted `size_hint` sum (over all indices `i` with `w ≤ i`) is the length of the
concatenation from position `w`. -/
theorem sum_filter_range_eq_length_drop {β : Type} (l : List (List β)) (w : Nat) :
    (((List.range l.length).filter (fun i => decide (w ≤ i))).map
      (fun i => (l.getD i []).length)).sum = ((l.drop w).flatten).length := by
  induction l generalizing w with
  | nil => simp
  | cons a l ih =>
    rw [List.length_cons, List.range_succ_eq_map, List.filter_cons]
    cases w with
    | zero => simpa [List.filter_map, Function.comp_def] using ih 0
    | succ w => simpa [List.filter_map, Function.comp_def] using ih w

/-- Invariant of the iterator state: `which` never exceeds the last archetype index (with zero
archetypes it stays `0`), and every archetype before `which` is exhausted. -/
structure EvIter.Ok (it : EvIter) : Prop where
  whichLt : it.which < it.iters.length ∨ (it.iters = [] ∧ it.which = 0)
  exhausted : ∀ i, i < it.which → it.iters.getD i [] = []

/-- The items not yet yielded: the concatenation of all remaining per-archetype slices. -/
def EvIter.remaining (it : EvIter) : List Key := it.iters.flatten

theorem EvIter.remaining_eq_drop {it : EvIter} (h : it.Ok) :
    it.remaining = (it.iters.drop it.which).flatten :=
  flatten_eq_drop_of_prefix_nil _ _ h.exhausted

theorem EvIter.remaining_eq_nil {it : EvIter}
    (h : ∀ i, i < it.iters.length → it.iters.getD i [] = []) : it.remaining = [] := by
  unfold EvIter.remaining
  rw [flatten_eq_drop_of_prefix_nil _ _ h, List.drop_length]
  rfl

theorem EvIter.start_ok (logs : List (List Key)) : (EvIter.start logs).Ok := by
  refine ⟨?_, fun i hi => absurd hi (Nat.not_lt_zero i)⟩
  cases logs with
  | nil => exact .inr ⟨rfl, rfl⟩
  | cons a l => exact .inl (Nat.zero_lt_succ _)

@[simp] theorem EvIter.remaining_start (logs : List (List Key)) :
    (EvIter.start logs).remaining = logs.flatten := rfl

theorem EvIter.blocks_cons_hit {n i : Nat} {rest : List Nat} {it : EvIter} {x : Key}
    {xs : List Key} (h : it.which = i) (hg : it.iters.getD i [] = x :: xs) :
    EvIter.blocks n (i :: rest) it = (some x, { it with iters := it.iters.set i xs }) := by
  rw [EvIter.blocks, if_pos h, hg]

theorem EvIter.blocks_cons_empty {n i : Nat} {rest : List Nat} {it : EvIter}
    (h : it.which = i) (hg : it.iters.getD i [] = []) :
    EvIter.blocks n (i :: rest) it =
      EvIter.blocks n rest (if i + 1 < n then { it with which := it.which + 1 } else it) := by
  rw [EvIter.blocks, if_pos h, hg]

theorem EvIter.blocks_cons_miss {n i : Nat} {rest : List Nat} {it : EvIter}
    (h : it.which ≠ i) : EvIter.blocks n (i :: rest) it = EvIter.blocks n rest it := by
  rw [EvIter.blocks, if_neg h]

/-- What one call of `next` must do, relative to the abstract remaining items `rem`. -/
def EvIter.NextSpec (rem : List Key) : Option Key × EvIter → Prop
  | (some x, it') => rem = x :: it'.remaining ∧ it'.Ok
  | (none, it') => rem = [] ∧ it'.remaining = [] ∧ it'.Ok

theorem EvIter.NextSpec.ok {rem : List Key} {r : Option Key × EvIter}
    (h : EvIter.NextSpec rem r) : r.2.Ok := by
  obtain ⟨_ | x, it'⟩ := r
  · exact h.2.2
  · exact h.2

theorem EvIter.Ok.set {it : EvIter} (hok : it.Ok) (hlt : it.which < it.iters.length)
    (xs : List Key) : EvIter.Ok { it with iters := it.iters.set it.which xs } :=
  ⟨.inl (by rw [List.length_set]; exact hlt), fun i hi => by
    rw [List.getD_eq_getElem?_getD, List.getElem?_set_ne (Nat.ne_of_gt hi),
      ← List.getD_eq_getElem?_getD]
    exact hok.exhausted i hi⟩

theorem EvIter.Ok.advance {it : EvIter} (hok : it.Ok) (hg : it.iters.getD it.which [] = [])
    (hlt : it.which + 1 < it.iters.length) : EvIter.Ok { it with which := it.which + 1 } :=
  ⟨.inl hlt, fun i hi =>
    if h : i = it.which then h ▸ hg else hok.exhausted i (by simp only at hi; omega)⟩

/-- The blocks `s, s+1, …, n-1` of `next()`, entered with `s ≤ which`. -/
theorem EvIter.blocks_spec {n m s : Nat} {it : EvIter} (hn : it.iters.length = n)
    (hsm : s + m = n) (hs : s ≤ it.which) (hok : it.Ok) :
    EvIter.NextSpec it.remaining (EvIter.blocks n (List.range' s m) it) := by
  induction m generalizing s it with
  | zero =>
    have hrem : it.remaining = [] :=
      EvIter.remaining_eq_nil fun i hi => hok.exhausted i (by omega)
    exact ⟨hrem, hrem, hok⟩
  | succ m ih =>
    rw [List.range'_succ]
    by_cases hw : it.which = s
    · subst hw
      cases hg : it.iters.getD it.which [] with
      | cons x xs =>
        rw [EvIter.blocks_cons_hit rfl hg]
        exact ⟨flatten_eq_cons_set it.iters _ x xs hok.exhausted hg, hok.set (by omega) xs⟩
      | nil =>
        rw [EvIter.blocks_cons_empty rfl hg]
        by_cases hlast : it.which + 1 < n
        · rw [if_pos hlast]
          exact ih hn (by omega) (Nat.le_refl _) (hok.advance hg (hn ▸ hlast))
        · -- the last block leaves `which` alone; every archetype is exhausted
          rw [if_neg hlast]
          obtain rfl : m = 0 := by omega
          have hrem : it.remaining = [] := EvIter.remaining_eq_nil fun i hi =>
            if h : i = it.which then h ▸ hg else hok.exhausted i (by omega)
          exact ⟨hrem, hrem, hok⟩
    · rw [EvIter.blocks_cons_miss hw]
      exact ih hn (by omega) (by omega) hok

/-- `NextSpec` unfolded.  Logs with empty lists anywhere (first, middle, last, all, or no archetypes
at all) are covered. -/
theorem EvIter.next_spec {it : EvIter} (h : it.Ok) :
    match it.next with
    | (some x, it') => it.remaining = x :: it'.remaining ∧ it'.Ok
    | (none, it') => it.remaining = [] ∧ it'.remaining = [] ∧ it'.Ok := by
  unfold EvIter.next
  rw [List.range_eq_range']
  exact EvIter.blocks_spec rfl (by omega) (by omega) h

theorem EvIter.blocks_length (n : Nat) (idxs : List Nat) (it : EvIter) :
    (EvIter.blocks n idxs it).2.iters.length = it.iters.length := by
  fun_induction EvIter.blocks n idxs it with
  | case1 => rfl
  | case2 => simp
  | case3 _ _ _ ih => rw [ih]; split <;> rfl
  | case4 _ _ _ _ ih => exact ih

theorem EvIter.next_length (it : EvIter) : it.next.2.iters.length = it.iters.length :=
  EvIter.blocks_length _ _ _

theorem EvIter.next_which_lt {it : EvIter} (h : it.Ok) (hne : it.iters ≠ []) :
    it.next.2.which < it.iters.length := by
  have hl := EvIter.next_length it
  rcases (EvIter.NextSpec.ok (EvIter.next_spec h)).whichLt with h1 | ⟨h1, _⟩
  · omega
  · rw [h1] at hl
    exact absurd (List.eq_nil_of_length_eq_zero hl.symm) hne

/-- `size_hint` is exact at every position: lower bound = upper bound = number of items not yet
yielded. -/
theorem EvIter.sizeHint_exact {it : EvIter} (h : it.Ok) :
    it.sizeHint = (it.remaining.length, some it.remaining.length) := by
  unfold EvIter.sizeHint
  simp only
  rw [sum_filter_range_eq_length_drop it.iters it.which, ← EvIter.remaining_eq_drop h]

/-- Draining with enough fuel yields exactly the remaining items, in order, and the hint
recorded before the `j`-th call of `next` is exactly the number of items not yet yielded:
`n, n-1, …, 1, 0` (the last one before the call that returns `None`). -/
theorem EvIter.drain_spec (fuel : Nat) (it : EvIter) (hok : it.Ok)
    (hf : fuel ≥ it.remaining.length + 1) :
    (EvIter.drain fuel it).1 = it.remaining ∧
    (EvIter.drain fuel it).2 =
      (List.range (it.remaining.length + 1)).reverse.map (fun r => (r, some r)) := by
  induction fuel generalizing it with
  | zero => omega
  | succ fuel ih =>
    have hs := EvIter.next_spec hok
    have hh := EvIter.sizeHint_exact hok
    rw [EvIter.drain]
    cases hn : it.next with
    | mk o it' =>
      rw [hn] at hs
      cases o with
      | none =>
        obtain ⟨hrem, _, _⟩ := hs
        simp only
        rw [hh, hrem]
        exact ⟨rfl, rfl⟩
      | some x =>
        obtain ⟨hrem, hok'⟩ := hs
        simp only
        have hlen : it.remaining.length = it'.remaining.length + 1 := by rw [hrem]; rfl
        obtain ⟨h1, h2⟩ := ih it' hok' (by omega)
        rw [h1, h2, hh, hlen]
        refine ⟨hrem.symm, ?_⟩
        rw [List.range_succ (n := it'.remaining.length + 1), List.reverse_append]
        rfl

theorem EvIter.drain_hint_getElem {fuel : Nat} {it : EvIter} (hok : it.Ok)
    (hf : fuel ≥ it.remaining.length + 1) {j : Nat} (hj : j ≤ it.remaining.length) :
    (EvIter.drain fuel it).2[j]? =
      some (it.remaining.length - j, some (it.remaining.length - j)) := by
  rw [(EvIter.drain_spec fuel it hok hf).2, List.getElem?_map,
    List.getElem?_reverse' (j := it.remaining.length - j) (by rw [List.length_range]; omega),
    List.getElem?_range (by omega)]
  rfl

/-- One hint per call of `next`: `n` successful calls and the final `None`. -/
theorem EvIter.drain_hints_length {fuel : Nat} {it : EvIter} (hok : it.Ok)
    (hf : fuel ≥ it.remaining.length + 1) :
    (EvIter.drain fuel it).2.length = it.remaining.length + 1 := by
  rw [(EvIter.drain_spec fuel it hok hf).2]
  simp

/-- The hints recorded by the drain of `C17_world_iterator` (Props/C17.lean): exact before every
call. -/
theorem EvIter.iter_hints (logs : List (List Key)) :
    (EvIter.drain (logs.flatten.length + 1) (EvIter.start logs)).2 =
      (List.range (logs.flatten.length + 1)).reverse.map (fun r => (r, some r)) :=
  (EvIter.drain_spec _ _ (EvIter.start_ok logs) (Nat.le_refl _)).2

section Examples

private def ka : Key := ⟨256, 1⟩
private def kb : Key := ⟨4294967295, 4294967295⟩
private def kc : Key := ⟨513, 7⟩

private def exLogs : List (List Key) := [[], [ka, kb], [], [kc], []]

-- empty logs first, in the middle, last
example : EvIter.drain 4 (EvIter.start exLogs) =
    ([ka, kb, kc], [(3, some 3), (2, some 2), (1, some 1), (0, some 0)]) := by decide
-- more fuel changes nothing
example : EvIter.drain 10 (EvIter.start exLogs) =
    ([ka, kb, kc], [(3, some 3), (2, some 2), (1, some 1), (0, some 0)]) := by decide
-- step by step: `which` moves over the empty logs and stops at the last index
example : (EvIter.start exLogs).next = (some ka, ⟨1, [[], [kb], [], [kc], []]⟩) := by decide
example : (⟨1, [[], [kb], [], [kc], []]⟩ : EvIter).next
    = (some kb, ⟨1, [[], [], [], [kc], []]⟩) := by decide
example : (⟨1, [[], [], [], [kc], []]⟩ : EvIter).next
    = (some kc, ⟨3, [[], [], [], [], []]⟩) := by decide
example : (⟨3, [[], [], [], [], []]⟩ : EvIter).next
    = (none, ⟨4, [[], [], [], [], []]⟩) := by decide
-- fused: a further call changes nothing
example : (⟨4, [[], [], [], [], []]⟩ : EvIter).next
    = (none, ⟨4, [[], [], [], [], []]⟩) := by decide
example : (⟨1, [[], [], [], [kc], []]⟩ : EvIter).sizeHint = (1, some 1) := by decide
-- the invariant holds at a mid-iteration state (hypothesis of `next_spec` is satisfiable
-- away from `start`)
example : (⟨3, [[], [], [], [kc], []]⟩ : EvIter).Ok := ⟨by decide, by decide⟩
example : (⟨4, [[], [], [], [], []]⟩ : EvIter).Ok := ⟨by decide, by decide⟩
-- all logs empty; no archetypes at all
example : EvIter.drain 1 (EvIter.start [[], [], []]) = ([], [(0, some 0)]) := by decide
example : EvIter.drain 1 (EvIter.start []) = ([], [(0, some 0)]) := by decide
example : (EvIter.start []).next = (none, EvIter.start []) := by decide
example : (EvIter.start []).Ok := EvIter.start_ok []
-- a single archetype
example : EvIter.drain 3 (EvIter.start [[ka, kb]]) =
    ([ka, kb], [(2, some 2), (1, some 1), (0, some 0)]) := by decide
-- the invariant is needed: a state that skipped a non-empty archetype under-reports
example : (⟨1, [[ka], [kb]]⟩ : EvIter).sizeHint = (1, some 1) ∧
    (⟨1, [[ka], [kb]]⟩ : EvIter).remaining.length = 2 := by decide
-- with too little fuel the drain is cut short (the fuel bound of `drain_spec` is needed for
-- the hints list; `remaining.length` alone does not record the final `0`)
example : (EvIter.drain 1 (EvIter.start [[ka, kb]])).1 = [ka] := by decide

end Examples

#print axioms EvIter.start_ok
#print axioms EvIter.remaining_start
#print axioms EvIter.remaining_eq_drop
#print axioms EvIter.next_spec
#print axioms EvIter.next_which_lt
#print axioms EvIter.sizeHint_exact
#print axioms EvIter.drain_spec
#print axioms EvIter.drain_hint_getElem
#print axioms EvIter.iter_hints

end Gecs
