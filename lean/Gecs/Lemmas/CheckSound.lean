/-
Soundness and completeness of the executable invariant checker `invCheck`
(Gecs/Model/Check.lean) with respect to the representation invariant `Inv`
(Gecs/Lemmas/Inv.lean), and the round-trip laws of the raw slot-word encoding (slot.rs).

The correspondence driver evaluates `invCheck` on the implementation's raw dumped state;
`invCheck_iff` shows that this decides exactly the `Inv` all property theorems are about.
-/
import Gecs.Model.Check
import Gecs.Lemmas.Inv
import Gecs.Lemmas.Bits

namespace Gecs

variable {α : Type}

theorem chainWalk_sound {slots : List Slot} {h : SIdx} {fuel : Nat} {L : List Nat} :
    chainWalk slots h fuel = some L → Chain slots h L := by
  intro hw
  fun_induction chainWalk slots h fuel generalizing L with
  | case1 => cases hw; exact .nil
  | case2 => cases hw
  | case3 => cases hw
  | case4 => cases hw
  | case5 i fuel sl hs hf ih =>
    cases hr : chainWalk slots sl.idx fuel with
    | none => rw [hr] at hw; cases hw
    | some L' => rw [hr] at hw; cases hw; exact .cons hs hf (ih hr)
  | case6 => cases hw

/-- On a chain of `n` nodes the walk succeeds exactly when it has `n` units of fuel
(`.freeEnd` is accepted with fuel `0`, every `.free` node consumes one unit). -/
theorem chainWalk_eq {slots : List Slot} {h : SIdx} {L : List Nat} (c : Chain slots h L)
    (fuel : Nat) : chainWalk slots h fuel = if L.length ≤ fuel then some L else none := by
  induction c generalizing fuel with
  | nil => cases fuel <;> simp [chainWalk]
  | @cons s sl L' hs hfree _ ih =>
    cases fuel with
    | zero => simp [chainWalk]
    | succ n =>
      simp only [chainWalk, hs, hfree, ih n, List.length_cons, Nat.add_le_add_iff_right, if_true]
      by_cases hn : L'.length ≤ n <;> simp [hn]

theorem chainWalk_complete {slots : List Slot} {h : SIdx} {L : List Nat}
    (c : Chain slots h L) {fuel : Nat} (hf : L.length ≤ fuel) :
    chainWalk slots h fuel = some L := by
  rw [chainWalk_eq c, if_pos hf]

theorem chainWalk_fuel_tight {slots : List Slot} {h : SIdx} {L : List Nat}
    (c : Chain slots h L) {fuel : Nat} (hf : fuel < L.length) :
    chainWalk slots h fuel = none := by
  rw [chainWalk_eq c, if_neg (Nat.not_le.mpr hf)]

theorem Chain.unique {slots : List Slot} {h : SIdx} {L₁ L₂ : List Nat}
    (c₁ : Chain slots h L₁) (c₂ : Chain slots h L₂) : L₁ = L₂ := by
  have h₁ := chainWalk_complete c₁ (fuel := max L₁.length L₂.length) (Nat.le_max_left _ _)
  have h₂ := chainWalk_complete c₂ (fuel := max L₁.length L₂.length) (Nat.le_max_right _ _)
  rw [h₁] at h₂
  exact Option.some.inj h₂

theorem invCheck_sound (cfg : Cfg) (s : Storage α) : invCheck cfg s = true → Inv cfg s := by
  intro h
  simp only [invCheck, Bool.and_eq_true, beq_iff_eq, decide_eq_true_eq, List.all_eq_true,
    List.mem_range] at h
  obtain ⟨⟨⟨⟨⟨⟨⟨⟨⟨hsl, hel⟩, hcl⟩, hlc⟩, hcm⟩, hav⟩, hde⟩, hsp⟩, hch⟩, hvp⟩ := h
  exact {
    slotsLen := hsl, entsLen := hel, colsLen := hcl, lenCap := hlc, capMax := hcm, archVer := hav
    verPos := fun i sl hi => hvp sl (List.mem_of_getElem? hi)
    dense := fun d e he => by
      have := hde d (List.getElem?_eq_some_iff.mp he).1
      rw [he] at this
      exact beq_iff_eq.mp this
    sparse := fun i d v hi => by
      have := hsp i (List.getElem?_eq_some_iff.mp hi).1
      rw [hi] at this
      exact beq_iff_eq.mp this
    chain := by
      cases hw : chainWalk s.slots s.freeHead (s.capacity + 1) with
      | none => rw [hw] at hch; cases hch
      | some L =>
        rw [hw] at hch
        simp only [Bool.and_eq_true, decide_eq_true_eq, beq_iff_eq] at hch
        exact ⟨L, chainWalk_sound hw, hch.1, hch.2⟩ }

theorem invCheck_complete (cfg : Cfg) (s : Storage α) : Inv cfg s → invCheck cfg s = true := by
  intro inv
  obtain ⟨L, hc, hnd, hlen⟩ := inv.chain
  have hfuel : L.length ≤ s.capacity + 1 := by omega
  have hw := chainWalk_complete hc hfuel
  simp only [invCheck, Bool.and_eq_true, beq_iff_eq, decide_eq_true_eq, List.all_eq_true,
    List.mem_range]
  refine ⟨⟨⟨⟨⟨⟨⟨⟨⟨inv.slotsLen, inv.entsLen⟩, inv.colsLen⟩, inv.lenCap⟩, inv.capMax⟩,
    inv.archVer⟩, ?_⟩, ?_⟩, ?_⟩, ?_⟩
  · intro d hd
    have he : s.ents[d]? = some s.ents[d] := List.getElem?_eq_getElem hd
    rw [he]
    simpa using inv.dense d _ he
  · intro i hi
    split
    · rename_i d v hs
      simpa using inv.sparse i d v hs
    · rfl
  · rw [hw]
    simp [hnd, hlen]
  · intro sl hsl
    obtain ⟨i, hi⟩ := List.getElem?_of_mem hsl
    exact inv.verPos i sl hi

theorem invCheck_iff (cfg : Cfg) (s : Storage α) : invCheck cfg s = true ↔ Inv cfg s :=
  ⟨invCheck_sound cfg s, invCheck_complete cfg s⟩

instance (cfg : Cfg) (s : Storage α) : Decidable (Inv cfg s) :=
  decidable_of_iff _ (invCheck_iff cfg s)

/-- capacity 3, two live entities whose dense order (slot 2, then slot 0) differs from the
slot order, one free slot (slot 1). -/
def CheckSound.exGood : Storage Nat :=
  { version := 4, len := 2, capacity := 3, freeHead := .free 1
    slots := [⟨.data 1, 7⟩, ⟨.freeEnd, 2⟩, ⟨.data 0, 5⟩]
    ents := [⟨2, 5⟩, ⟨0, 7⟩]
    cols := [[10, 20], [30, 40]]
    created := [], destroyed := [] }

def CheckSound.exCfg : Cfg := { maxCap := 16, vmax := 100, wrapping := false, events := false, debug := true }

example : invCheck CheckSound.exCfg CheckSound.exGood = true := by decide
example : Inv CheckSound.exCfg CheckSound.exGood := (invCheck_iff _ _).mp (by decide)

/-- Same storage, but slot 0 points back to dense row 0 instead of 1. -/
def CheckSound.exBad : Storage Nat := { CheckSound.exGood with slots := [⟨.data 0, 7⟩, ⟨.freeEnd, 2⟩, ⟨.data 0, 5⟩] }

example : invCheck CheckSound.exCfg CheckSound.exBad = false := by decide
example : ¬ Inv CheckSound.exCfg CheckSound.exBad := fun h => absurd ((invCheck_iff _ _).mpr h) (by decide)

/-- A free chain that loops (`1 → 1`) is rejected by the fuel bound. -/
example : invCheck CheckSound.exCfg { CheckSound.exGood with slots := [⟨.data 1, 7⟩, ⟨.free 1, 2⟩, ⟨.data 0, 5⟩] } = false := by
  decide

/-- `chainWalk` on a two-node chain: fuel `2` suffices, fuel `1` does not. -/
example : chainWalk [⟨.free 2, 1⟩, ⟨.data 0, 1⟩, ⟨.freeEnd, 1⟩] (.free 0) 2 = some [0, 2] := by decide
example : chainWalk [⟨.free 2, 1⟩, ⟨.data 0, 1⟩, ⟨.freeEnd, 1⟩] (.free 0) 1 = none := by decide

/-! ### Raw slot words (slot.rs `SlotIndex`)

`Bits.lean` has `decode_encode` on payloads `< MAX_DATA_CAPACITY`, the range the code can construct,
and the unconditional `encode_decode`.  Here the exact domain of the round trip is characterised. -/

/-- The link `FREE_BIT - 1` is excluded because it *is* the end marker: `.free (FREE_BIT - 1)` encodes
to `FREE_LIST_END`. -/
theorem decode_encode_iff (x : SIdx) :
    decodeIdx (encodeIdx x) = x ↔
      (match x with
       | .data i => i < FREE_BIT
       | .free n => n ≠ FREE_BIT - 1
       | .freeEnd => True) := by
  cases x with
  | data i =>
    show decodeIdx i = .data i ↔ i < FREE_BIT
    refine ⟨fun h => ?_, decodeIdx_data⟩
    rcases decodeIdx_cases i with ⟨_, e⟩ | ⟨_, _, e⟩ | ⟨hlt, _⟩
    · rw [e] at h; cases h
    · rw [e] at h; cases h
    · exact hlt
  | free n =>
    show decodeIdx (n + FREE_BIT) = .free n ↔ n ≠ FREE_BIT - 1
    -- `n + FREE_BIT` is the end marker exactly for `n = FREE_BIT - 1`
    refine ⟨fun h hn => ?_, decodeIdx_free⟩
    rw [hn] at h
    exact absurd h (by decide)
  | freeEnd => exact ⟨fun _ => trivial, fun _ => if_pos rfl⟩

/-- The round trip on everything a `u32` word can decode to (`decodeIdx_range`): data indices below
`FREE_BIT`, free-list links below `FREE_BIT - 1`. -/
theorem decode_encode_tight (x : SIdx)
    (h : match x with
      | .data i => i < FREE_BIT
      | .free n => n < FREE_BIT - 1
      | .freeEnd => True) :
    decodeIdx (encodeIdx x) = x := by
  cases x with
  | data i => exact decodeIdx_data h
  | free n => exact decodeIdx_free (Nat.ne_of_lt h)
  | freeEnd => exact if_pos rfl

/-- Encoding a decoded word gives it back.  This holds for every natural number
(`Gecs.encode_decode` in `Bits.lean`): the bound `raw < 2^32`, true of every `u32` word, is not
used. -/
theorem encode_decode_u32 (raw : Nat) (_h : raw < 4294967296) :
    encodeIdx (decodeIdx raw) = raw :=
  encode_decode raw

/-- Decoding a `u32` word always lands in the domain of `decode_encode_tight`, so on `u32`
words `decodeIdx`/`encodeIdx` are mutually inverse bijections onto that domain. -/
theorem decodeIdx_range (raw : Nat) (h : raw < 4294967296) :
    match decodeIdx raw with
    | .data i => i < FREE_BIT
    | .free n => n < FREE_BIT - 1
    | .freeEnd => True := by
  rcases decodeIdx_cases raw with ⟨_, e⟩ | ⟨h1, h2, e⟩ | ⟨h2, e⟩ <;> rw [e]
  · trivial
  · have hB : FREE_BIT = 2147483648 := rfl
    have hE : FREE_LIST_END = 4294967295 := rfl
    show raw - FREE_BIT < FREE_BIT - 1
    omega
  · exact h2

/-- The side conditions of `decode_encode_tight` are necessary … -/
example : decodeIdx (encodeIdx (.free (FREE_BIT - 1))) = .freeEnd := by decide
example : decodeIdx (encodeIdx (.data FREE_BIT)) = .free 0 := by decide
/-- … and satisfiable, up to the last admissible payloads. -/
example : decodeIdx (encodeIdx (.free (FREE_BIT - 2))) = .free (FREE_BIT - 2) :=
  decode_encode_tight _ (by decide)
example : decodeIdx (encodeIdx (.data (FREE_BIT - 1))) = .data (FREE_BIT - 1) :=
  decode_encode_tight _ (by decide)
example : encodeIdx (decodeIdx 4294967295) = 4294967295 := encode_decode_u32 _ (by decide)

end Gecs

#print axioms Gecs.chainWalk_sound
#print axioms Gecs.chainWalk_complete
#print axioms Gecs.invCheck_sound
#print axioms Gecs.invCheck_complete
#print axioms Gecs.invCheck_iff
#print axioms Gecs.decode_encode_iff
#print axioms Gecs.decode_encode_tight
#print axioms Gecs.encode_decode_u32
#print axioms Gecs.decodeIdx_range
