/-
C14: handle conversions are lossless and type-faithful, plus the raw slot-index encoding
(slot.rs) used by C03/C12.

The world model (Model/World.lean) uses the arithmetic forms `index * 256 + id`, `key / 256`,
`key % 256`; Model/Bits.lean states the shift/or/truncate forms the Rust code computes.  This
file proves that the two coincide for all in-range words, that packing is injective, that
every conversion between handle kinds returns the very same two words (or refuses exactly
when the archetype id differs), and that the `SlotIndex` encoding round-trips.

Everything is over `Nat`.  The arithmetic is in the lemmas about a high part over a low part
(`a * d + b` with `b < d`, and its shift/or form); the widths 8, 24, 31, 32 enter where those are
applied.  The key word (index over id) and the hash word (key over version) are two such packings
and get the same facts from them: shift/or form = arithmetic form, bound, injectivity.  A slot word
is not a packing but one of three ranges (`decodeIdx_cases`); its injectivity is the round trip.
-/
import Gecs.Model.World
import Gecs.Model.Bits
import Gecs.Model.Check

namespace Gecs

theorem ID_RANGE_eq : ID_RANGE = 2 ^ ARCHETYPE_ID_BITS := by decide
theorem U32_eq : U32 = 2 ^ 32 := by decide
theorem MAX_DATA_CAPACITY_eq : MAX_DATA_CAPACITY = 2 ^ (32 - ARCHETYPE_ID_BITS) := by decide
theorem FREE_BIT_eq : FREE_BIT = 2 ^ 31 := by decide
theorem FREE_LIST_END_eq : FREE_LIST_END = U32 - 1 := by decide

/-! ### A high part over a low part: `a * d + b` with `b < d`, and its shift/or form -/

theorem pack_div {d b : Nat} (a : Nat) (h : b < d) : (a * d + b) / d = a := by
  rw [Nat.add_comm, Nat.add_mul_div_right _ _ (Nat.zero_lt_of_lt h), Nat.div_eq_of_lt h,
    Nat.zero_add]

theorem pack_lt {d m a b : Nat} (ha : a < m) (hb : b < d) : a * d + b < m * d :=
  Nat.lt_of_lt_of_le (Nat.add_lt_add_left hb _) (Nat.succ_mul a d ▸ Nat.mul_le_mul_right d ha)

theorem pack_inj {d a b a' b' : Nat} (hb : b < d) (hb' : b' < d)
    (h : a * d + b = a' * d + b') : a = a' ∧ b = b' :=
  ⟨by rw [← pack_div a hb, h, pack_div a' hb'],
   by rw [← Nat.mul_add_mod_of_lt (a := a) hb, h, Nat.mul_add_mod_of_lt hb']⟩

theorem shl_or {n b : Nat} (a : Nat) (h : b < 2 ^ n) : a <<< n ||| b = a * 2 ^ n + b := by
  rw [← Nat.shiftLeft_add_eq_or_of_lt h, Nat.shiftLeft_eq]

theorem shl_mod_of_lt {a m : Nat} (n : Nat) (h : a < 2 ^ m) :
    a <<< n % 2 ^ (m + n) = a <<< n := by
  rw [Nat.shiftLeft_eq, Nat.pow_add]
  exact Nat.mod_eq_of_lt (Nat.mul_lt_mul_of_pos_right h (Nat.two_pow_pos n))

/-- Testing bit `n` of a word of `n + 1` bits is comparing with `2 ^ n`. -/
theorem two_pow_and_ne_zero_iff {n x : Nat} (h : x < 2 ^ (n + 1)) :
    2 ^ n &&& x ≠ 0 ↔ 2 ^ n ≤ x := by
  constructor
  · intro hne
    -- a set bit of `2 ^ n &&& x` can only be bit `n`, and then it is set in `x`
    obtain ⟨i, hi⟩ := Nat.exists_testBit_of_ne_zero hne
    rw [Nat.testBit_and, Nat.testBit_two_pow, Bool.and_eq_true, decide_eq_true_eq] at hi
    exact Nat.ge_two_pow_of_testBit (hi.1 ▸ hi.2)
  · intro hge hz
    have hb : (2 ^ n &&& x).testBit n = true := by
      rw [Nat.testBit_and, Nat.testBit_two_pow_self,
        Nat.testBit_of_two_pow_le_and_two_pow_add_one_gt hge h]
      rfl
    rw [hz, Nat.zero_testBit] at hb
    cases hb

/-! ### The key word: shift/or/truncate forms = arithmetic forms

The widths enter only as `d = ID_RANGE = 2 ^ ARCHETYPE_ID_BITS` (key word) and `d = U32 = 2 ^ 32`
(hash word); `256 * MAX_DATA_CAPACITY = U32` and the like are checked by evaluation. -/

/-- `(index << 8) | id = index * 256 + id` for every `u8` id. -/
theorem packKey_eq (index id : Nat) (h : id < 256) : packKey index id = index * 256 + id :=
  shl_or (n := ARCHETYPE_ID_BITS) index h

theorem keyIndex_eq (k : Nat) : keyIndex k = k / 256 :=
  Nat.shiftRight_eq_div_pow k ARCHETYPE_ID_BITS

/-- `key as u8` is also `key & 0xFF`. -/
theorem keyId_eq_and (k : Nat) : keyId k = k &&& 255 :=
  (Nat.and_two_pow_sub_one_eq_mod k 8).symm

/-- `archetype_id()` of a packed key is the id that was packed. -/
theorem keyId_pack {index id : Nat} (h : id < 256) : keyId (packKey index id) = id := by
  rw [packKey_eq index id h]; exact Nat.mul_add_mod_of_lt h

/-- `slot_index()` / `dense_index()` of a packed key is the index that was packed. -/
theorem keyIndex_pack {index id : Nat} (h : id < 256) : keyIndex (packKey index id) = index := by
  rw [keyIndex_eq, packKey_eq index id h]; exact pack_div index h

/-- The packed key of an in-range index and a `u8` id is a `u32` (no bits are shifted out);
the largest position `2^24 - 1` and id `255` are included. -/
theorem packKey_lt {index id : Nat} (hi : index < MAX_DATA_CAPACITY) (h : id < 256) :
    packKey index id < U32 := by
  rw [packKey_eq index id h]; exact pack_lt hi h

/-- `EntityAny::new` computes the `key` word of the model's `mkKey`. -/
theorem packKey_eq_mkKey {index id : Nat} (v : Nat) (h : id < 256) :
    packKey index id = (mkKey index id v).key :=
  packKey_eq index id h

/-- The model's accessors are the Rust accessors. -/
theorem Key.archId_eq_keyId (k : Key) : k.archId = keyId k.key := rfl

theorem Key.index_eq_keyIndex (k : Key) : k.index = keyIndex k.key :=
  (keyIndex_eq k.key).symm

theorem Key.archId_mkKey {index id : Nat} (v : Nat) (h : id < 256) :
    (mkKey index id v).archId = id :=
  Nat.mul_add_mod_of_lt h

theorem Key.index_mkKey {index id : Nat} (v : Nat) (h : id < 256) :
    (mkKey index id v).index = index :=
  pack_div index h

@[simp] theorem Key.ver_mkKey (index id v : Nat) : (mkKey index id v).ver = v := rfl

theorem Key.archId_lt (k : Key) : k.archId < 256 :=
  Nat.mod_lt _ (by decide)

/-- For any `u32` key word the extracted index is `≤ MAX_DATA_INDEX`: the
`debug_assert!(key >> 8 <= MAX_DATA_INDEX)` and the `unwrap_unchecked` of
`TrimmedIndex::new_u32` in `slot_index()` can never fail. -/
theorem Key.index_lt {k : Key} (h : k.key < U32) : k.index < MAX_DATA_CAPACITY :=
  Nat.div_lt_of_lt_mul h

theorem Key.index_le_max {k : Key} (h : k.key < U32) : k.index ≤ MAX_DATA_INDEX :=
  Nat.le_pred_of_lt (Key.index_lt h)

theorem Key.eq_mkKey (k : Key) : k = mkKey k.index k.archId k.ver :=
  congrArg (Key.mk · k.ver) (Nat.div_add_mod' k.key ID_RANGE).symm

theorem mkKey_inj {i₁ id₁ v₁ i₂ id₂ v₂ : Nat} (h₁ : id₁ < 256) (h₂ : id₂ < 256)
    (h : mkKey i₁ id₁ v₁ = mkKey i₂ id₂ v₂) : i₁ = i₂ ∧ id₁ = id₂ ∧ v₁ = v₂ :=
  have ⟨hk, hv⟩ := Key.mk.inj h
  have ⟨hi, hid⟩ := pack_inj h₁ h₂ hk
  ⟨hi, hid, hv⟩

theorem mkKey_wf {index id v : Nat} (hi : index < MAX_DATA_CAPACITY) (h : id < 256)
    (hv : 1 ≤ v) (hv' : v < U32) : (mkKey index id v).wf :=
  ⟨pack_lt hi h, hv, hv'⟩

/-! ### `EntityAny::raw` / `EntityAny::from_raw` -/

theorem fromRaw_raw {k : Key} (h : k.wf) : fromRaw k.raw.1 k.raw.2 = some k :=
  if_neg (Nat.ne_of_gt h.2.1)

theorem fromRaw_none_iff (key ver : Nat) : fromRaw key ver = none ↔ ver = 0 := by
  simp [fromRaw]

theorem raw_fromRaw {key ver : Nat} {k : Key} (h : fromRaw key ver = some k) :
    k.raw = (key, ver) := by
  cases (Option.ite_none_left_eq_some.1 h).2
  rfl

theorem fromRaw_wf {key ver : Nat} {k : Key} (hk : key < U32) (hv : ver < U32)
    (h : fromRaw key ver = some k) : k.wf := by
  obtain ⟨hne, hk'⟩ := Option.ite_none_left_eq_some.1 h
  cases hk'
  exact ⟨hk, Nat.pos_of_ne_zero hne, hv⟩

@[simp] theorem intoAny_eq (k : Key) : intoAny k = k := rfl

/-- `TryFrom<EntityAny> for Entity<A>`: succeeds exactly when the id is `A`'s, and then returns
the same words. -/
theorem tryFrom_iff (idA : Nat) (k k' : Key) :
    tryFromAny idA (intoAny k) = some k' ↔ (k.archId = idA ∧ k' = k) :=
  Option.ite_some_none_eq_some.trans (and_congr_right' eq_comm)

theorem tryFrom_none_iff (idA : Nat) (k : Key) :
    tryFromAny idA (intoAny k) = none ↔ k.archId ≠ idA := by
  rw [Option.eq_none_iff_forall_ne_some]
  exact ⟨fun h e => h k ((tryFrom_iff idA k k).2 ⟨e, rfl⟩),
    fun h k' e => h ((tryFrom_iff idA k k').1 e).1⟩

/-- `Entity::<A>::from_any`: `none` (the panic "invalid entity conversion") exactly on a
mismatching id, the same words otherwise. -/
theorem fromAny_iff (idA : Nat) (k k' : Key) :
    fromAny idA (intoAny k) = some k' ↔ (k.archId = idA ∧ k' = k) :=
  tryFrom_iff idA k k'

theorem fromAny_none_iff (idA : Nat) (k : Key) :
    fromAny idA (intoAny k) = none ↔ k.archId ≠ idA :=
  tryFrom_none_iff idA k

theorem tryFrom_intoAny_self (k : Key) : tryFromAny k.archId (intoAny k) = some k :=
  (tryFrom_iff _ _ _).2 ⟨rfl, rfl⟩

theorem fromAny_intoAny_self (k : Key) : fromAny k.archId (intoAny k) = some k :=
  (fromAny_iff _ _ _).2 ⟨rfl, rfl⟩

/-- Release builds: `from_any_unchecked` is the identity on the words, whatever the id. -/
theorem fromAnyUnchecked_release {cfg : Cfg} (idA : Nat) (k : Key) (h : cfg.debug = false) :
    fromAnyUnchecked cfg idA k = some k :=
  if_neg fun hc => Bool.false_ne_true (h ▸ hc.1)

theorem fromAnyUnchecked_of_eq (cfg : Cfg) {idA : Nat} {k : Key} (h : k.archId = idA) :
    fromAnyUnchecked cfg idA k = some k :=
  if_neg fun hc => hc.2 h

/-- Debug builds: `from_any_unchecked` returns the same words iff the id matches (otherwise the
`debug_assert!` fires). -/
theorem fromAnyUnchecked_debug {cfg : Cfg} (idA : Nat) (k : Key) (h : cfg.debug = true) :
    fromAnyUnchecked cfg idA k = some k ↔ k.archId = idA :=
  ⟨fun e => Decidable.of_not_not fun hne => (Option.ite_none_left_eq_some.1 e).1 ⟨h, hne⟩,
   fromAnyUnchecked_of_eq cfg⟩

theorem fromAnyUnchecked_some {cfg : Cfg} {idA : Nat} {k k' : Key}
    (h : fromAnyUnchecked cfg idA k = some k') : k' = k :=
  (Option.some.inj (Option.ite_none_left_eq_some.1 h).2).symm

/-! ### The generated `match entity.archetype_id() { … }` -/

/-- The selected archetype carries the id (no distinctness of the ids needed). -/
theorem selectArch_some {ids : List Nat} {id a : Nat} (h : selectArch ids id = some a) :
    ids[a]? = some id := by
  obtain ⟨hlt, hp, _⟩ := List.findIdx?_eq_some_iff_getElem.1 h
  exact List.getElem?_eq_some_iff.2 ⟨hlt, eq_of_beq hp⟩

/-- The wildcard arm (`InvalidEntityType` / panic "invalid entity type") is taken exactly for
ids that no archetype of the world has. -/
theorem selectArch_none_iff (ids : List Nat) (id : Nat) :
    selectArch ids id = none ↔ id ∉ ids :=
  List.findIdx?_eq_none_iff.trans
    ⟨fun h hm => Bool.noConfusion ((beq_self_eq_true id).symm.trans (h id hm)),
     fun h _ hx => beq_false_of_ne fun e => h (e ▸ hx)⟩

theorem selectArch_spec {ids : List Nat} (hn : ids.Nodup) (id a : Nat) :
    selectArch ids id = some a ↔ ids[a]? = some id := by
  refine ⟨selectArch_some, fun h => ?_⟩
  cases hs : selectArch ids id with
  | none => exact absurd (List.mem_of_getElem? h) ((selectArch_none_iff ids id).1 hs)
  | some b =>
    -- the selected position `b` carries the id too, and the ids are distinct
    have hb := selectArch_some hs
    rw [(List.getElem?_inj (List.getElem?_eq_some_iff.1 hb).1 hn).1 (hb.trans h.symm)]

/-- `TryFrom<EntityAny> for SelectEntity`: the unique archetype with the handle's id, and the
same words. -/
theorem selectEntity_spec {ids : List Nat} (hn : ids.Nodup) (k k' : Key) (a : Nat) :
    selectEntity ids k = some (a, k') ↔ (ids[a]? = some k.archId ∧ k' = k) := by
  rw [← selectArch_spec hn, selectEntity, Option.map_eq_some_iff]
  constructor
  · rintro ⟨b, hb, e⟩; cases e; exact ⟨hb, rfl⟩
  · rintro ⟨hb, rfl⟩; exact ⟨a, hb, rfl⟩

/-- `InvalidEntityType`, exactly when no archetype has that id. -/
theorem selectEntity_none_iff (ids : List Nat) (k : Key) :
    selectEntity ids k = none ↔ k.archId ∉ ids :=
  Option.map_eq_none_iff.trans (selectArch_none_iff ids k.archId)

theorem selectEntity_unique {ids : List Nat} (hn : ids.Nodup) {k k₁ : Key} {a₁ a₂ : Nat}
    (h₁ : selectEntity ids k = some (a₁, k₁)) (_h₂ : ids[a₂]? = some k.archId) :
    a₂ = a₁ ∧ k₁ = k := by
  have h₂ := (selectEntity_spec hn k k a₂).2 ⟨_h₂, rfl⟩
  rw [h₁] at h₂
  cases h₂
  exact ⟨rfl, rfl⟩

/-- `SelectArchetype::archetype_id` returns the handle's own id whenever the match succeeds
(the table lookup gives back what the match compared with); no distinctness of the ids needed. -/
theorem selectArchetypeId_eq_ite (ids : List Nat) (k : Key) :
    selectArchetypeId ids k = if k.archId ∈ ids then some k.archId else none := by
  unfold selectArchetypeId
  cases hs : selectArch ids k.archId with
  | none => rw [if_neg ((selectArch_none_iff _ _).1 hs)]; rfl
  | some a =>
    have ha := selectArch_some hs
    rw [if_pos (List.mem_of_getElem? ha), Option.map_some, List.getD_eq_getElem?_getD, ha]; rfl

theorem selectArchetypeId_spec {ids : List Nat} (_hn : ids.Nodup) {k : Key} {i : Nat}
    (h : selectArchetypeId ids k = some i) : i = k.archId := by
  rw [selectArchetypeId_eq_ite] at h
  exact (Option.ite_some_none_eq_some.1 h).2.symm

theorem selectArchetypeId_iff (ids : List Nat) (k : Key) (i : Nat) :
    selectArchetypeId ids k = some i ↔ (i = k.archId ∧ k.archId ∈ ids) := by
  rw [selectArchetypeId_eq_ite, Option.ite_some_none_eq_some, eq_comm, and_comm]

/-! ### `Eq` / `Hash` of the four handle types (entity.rs): all compare and hash the two words -/

/-- `Eq` is structural equality of the two words. -/
theorem Key.eq_iff (k₁ k₂ : Key) : k₁ = k₂ ↔ (k₁.key = k₂.key ∧ k₁.ver = k₂.ver) := by
  cases k₁; cases k₂; exact Iff.of_eq (Key.mk.injEq ..)

/-- `(key as u64) << 32 | version as u64 = key * 2^32 + version` for a `u32` version. -/
theorem hashInput_eq {k : Key} (h : k.ver < U32) : hashInput k = k.key * U32 + k.ver :=
  shl_or (n := 32) k.key h

/-- The value fed to the hasher determines the handle: no two well-formed handles collide
before hashing. -/
theorem hashInput_inj {k₁ k₂ : Key} (h₁ : k₁.wf) (h₂ : k₂.wf)
    (h : hashInput k₁ = hashInput k₂) : k₁ = k₂ := by
  rw [hashInput_eq h₁.2.2, hashInput_eq h₂.2.2] at h
  exact (Key.eq_iff k₁ k₂).2 (pack_inj h₁.2.2 h₂.2.2 h)

theorem hashInput_eq_iff {k₁ k₂ : Key} (h₁ : k₁.wf) (h₂ : k₂.wf) :
    hashInput k₁ = hashInput k₂ ↔ k₁ = k₂ :=
  ⟨hashInput_inj h₁ h₂, congrArg hashInput⟩

/-- The hash input of a well-formed handle is a `u64`. -/
theorem hashInput_lt {k : Key} (h : k.wf) : hashInput k < 2 ^ 64 := by
  rw [hashInput_eq h.2.2]
  exact pack_lt h.1 h.2.2

/-! ### Slot-index encoding (slot.rs) -/

/-- The reserved end marker with the free bit cleared is not a valid data index (the crate's
own unit test). -/
theorem free_end_not_index : FREE_LIST_END - FREE_BIT ≥ MAX_DATA_CAPACITY := by decide

theorem max_index_lt_free_bit : MAX_DATA_INDEX < FREE_BIT := by decide

/-- The three ranges of a raw slot word, with what it decodes to in each. -/
theorem decodeIdx_cases (raw : Nat) :
    (raw = FREE_LIST_END ∧ decodeIdx raw = .freeEnd) ∨
    (raw ≠ FREE_LIST_END ∧ FREE_BIT ≤ raw ∧ decodeIdx raw = .free (raw - FREE_BIT)) ∨
    (raw < FREE_BIT ∧ decodeIdx raw = .data raw) := by
  unfold decodeIdx
  by_cases h1 : raw = FREE_LIST_END
  · exact .inl ⟨h1, if_pos h1⟩
  · by_cases h2 : raw ≥ FREE_BIT
    · exact .inr (.inl ⟨h1, h2, by rw [if_neg h1, if_pos h2]⟩)
    · exact .inr (.inr ⟨Nat.lt_of_not_le h2, by rw [if_neg h1, if_neg h2]⟩)

theorem decodeIdx_data {raw : Nat} (h : raw < FREE_BIT) : decodeIdx raw = .data raw := by
  rw [decodeIdx, if_neg (Nat.ne_of_lt (Nat.lt_trans h (by decide))), if_neg (Nat.not_le_of_lt h)]

theorem decodeIdx_free {n : Nat} (h : n ≠ FREE_BIT - 1) : decodeIdx (n + FREE_BIT) = .free n := by
  -- `FREE_LIST_END` is `(FREE_BIT - 1) + FREE_BIT`
  rw [decodeIdx, if_neg fun (e : _ = FREE_LIST_END) => h (Nat.add_right_cancel e),
    if_pos (Nat.le_add_left _ _), Nat.add_sub_cancel]

theorem decode_encode {x : SIdx}
    (hd : ∀ i, x = .data i → i < MAX_DATA_CAPACITY)
    (hf : ∀ n, x = .free n → n < MAX_DATA_CAPACITY) :
    decodeIdx (encodeIdx x) = x := by
  cases x with
  | data i => exact decodeIdx_data (Nat.lt_trans (hd i rfl) (by decide))
  | free n => exact decodeIdx_free (Nat.ne_of_lt (Nat.lt_trans (hf n rfl) (by decide)))
  | freeEnd => exact if_pos rfl

theorem encode_lt {x : SIdx}
    (hd : ∀ i, x = .data i → i < MAX_DATA_CAPACITY)
    (hf : ∀ n, x = .free n → n < MAX_DATA_CAPACITY) :
    encodeIdx x < U32 := by
  cases x with
  | data i => exact Nat.lt_trans (hd i rfl) (by decide)
  | free n => exact Nat.lt_trans (Nat.add_lt_add_right (hf n rfl) FREE_BIT) (by decide)
  | freeEnd => decide

theorem encode_decode (raw : Nat) : encodeIdx (decodeIdx raw) = raw := by
  rcases decodeIdx_cases raw with ⟨h, e⟩ | ⟨_, h, e⟩ | ⟨_, e⟩ <;> rw [e]
  · exact h.symm
  · exact Nat.sub_add_cancel h
  · rfl

theorem encodeIdx_inj {x y : SIdx}
    (hxd : ∀ i, x = .data i → i < MAX_DATA_CAPACITY)
    (hxf : ∀ n, x = .free n → n < MAX_DATA_CAPACITY)
    (hyd : ∀ i, y = .data i → i < MAX_DATA_CAPACITY)
    (hyf : ∀ n, y = .free n → n < MAX_DATA_CAPACITY)
    (h : encodeIdx x = encodeIdx y) : x = y := by
  rw [← decode_encode hxd hxf, ← decode_encode hyd hyf, h]

/-- `is_free()`: the decoded index is a free-list link (or the end marker) iff the raw word
has the free bit region set, `raw ≥ FREE_BIT` (no range hypothesis is needed). -/
theorem decodeIdx_isFree (raw : Nat) : (decodeIdx raw).isFree = true ↔ raw ≥ FREE_BIT := by
  rcases decodeIdx_cases raw with ⟨h, e⟩ | ⟨_, h, e⟩ | ⟨h, e⟩ <;> rw [e]
  · exact ⟨fun _ => h ▸ (by decide), fun _ => rfl⟩
  · exact ⟨fun _ => h, fun _ => rfl⟩
  · exact ⟨fun h' => (by cases h'), fun h' => absurd h (Nat.not_lt_of_le h')⟩

/-- The Rust test `FREE_BIT & raw != 0` is `raw ≥ FREE_BIT` for every `u32`. -/
theorem freeBit_and_ne_zero_iff {raw : Nat} (h : raw < U32) :
    FREE_BIT &&& raw ≠ 0 ↔ raw ≥ FREE_BIT :=
  two_pow_and_ne_zero_iff (n := 31) h

/-- `is_free()` as the Rust code computes it. -/
theorem decodeIdx_isFree_and {raw : Nat} (h : raw < U32) :
    (decodeIdx raw).isFree = true ↔ FREE_BIT &&& raw ≠ 0 := by
  rw [decodeIdx_isFree, freeBit_and_ne_zero_iff h]

/-! ### Non-vacuity: boundary words -/

section Examples

-- largest index, largest id
example : packKey 16777215 255 = 4294967295 := by decide
example : packKey 16777215 255 = (mkKey 16777215 255 4294967295).key :=
  packKey_eq_mkKey 4294967295 (by decide)
example : keyId (packKey 16777215 255) = 255 := keyId_pack (by decide)
example : keyIndex (packKey 16777215 255) = 16777215 := keyIndex_pack (by decide)
example : packKey 16777215 255 < U32 := packKey_lt (by decide) (by decide)
example : packKey 16777215 255 < U32 := by decide
-- one past the largest index is NOT a u32 any more (the bound in `packKey_lt` is tight)
example : ¬ packKey 16777216 0 < U32 := by decide
-- an id of 256 would spill into the index (the bound `id < 256` is needed)
example : keyIndex (packKey 0 256) ≠ 0 := by decide
example : (mkKey 16777215 255 4294967295).wf := mkKey_wf (by decide) (by decide) (by decide) (by decide)
example : (mkKey 16777215 255 4294967295).wf := by unfold Key.wf; decide
example : (mkKey 0 0 1).wf := by unfold Key.wf; decide
example : (mkKey 16777215 255 4294967295).archId = 255 := by decide
example : (mkKey 16777215 255 4294967295).index = 16777215 := by decide
example : (⟨4294967295, 1⟩ : Key).index < MAX_DATA_CAPACITY := Key.index_lt (by decide)
example : (⟨4294967295, 1⟩ : Key).index = MAX_DATA_INDEX := by decide
example : mkKey 16777215 255 4294967295 ≠ mkKey 16777215 254 4294967295 :=
  fun e => absurd (mkKey_inj (by decide) (by decide) e).2.1 (by decide)
example : mkKey 16777215 255 4294967295 ≠ mkKey 16777214 255 4294967295 := by decide
example : mkKey 16777215 255 4294967295 ≠ mkKey 16777215 255 4294967294 := by decide

example : fromRaw 4294967295 4294967295 = some ⟨4294967295, 4294967295⟩ := by decide
example : fromRaw (mkKey 16777215 255 4294967295).raw.1 (mkKey 16777215 255 4294967295).raw.2
    = some (mkKey 16777215 255 4294967295) := fromRaw_raw (by unfold Key.wf; decide)
example : fromRaw 4294967295 0 = none := by decide

example : tryFromAny 255 (intoAny (mkKey 16777215 255 4294967295))
    = some (mkKey 16777215 255 4294967295) := by decide
example : tryFromAny 254 (intoAny (mkKey 16777215 255 4294967295)) = none := by decide
example : fromAny 255 (intoAny (mkKey 16777215 255 4294967295))
    = some (mkKey 16777215 255 4294967295) := by decide
example : fromAny 0 (intoAny (mkKey 16777215 255 4294967295)) = none := by decide
example : fromAnyUnchecked ⟨16777216, 4294967295, false, true, false⟩ 0
    (mkKey 16777215 255 4294967295) = some (mkKey 16777215 255 4294967295) := by decide
example : fromAnyUnchecked ⟨16777216, 4294967295, false, true, true⟩ 0
    (mkKey 16777215 255 4294967295) = none := by decide
example : fromAnyUnchecked ⟨16777216, 4294967295, false, true, true⟩ 255
    (mkKey 16777215 255 4294967295) = some (mkKey 16777215 255 4294967295) := by decide

example : [0, 255, 7].Nodup := by decide
example : selectArch [0, 255, 7] 255 = some 1 := by decide
example : selectArch [0, 255, 7] 3 = none := by decide
example : selectEntity [0, 255, 7] (mkKey 16777215 255 4294967295)
    = some (1, mkKey 16777215 255 4294967295) := by decide
example : selectEntity [0, 255, 7] (mkKey 16777215 254 4294967295) = none := by decide
example : selectArchetypeId [0, 255, 7] (mkKey 16777215 255 4294967295) = some 255 := by decide
-- without `Nodup` the `↔` of `selectArch_spec` fails (first match wins): the hypothesis is needed
example : ([5, 5] : List Nat)[1]? = some 5 ∧ selectArch [5, 5] 5 ≠ some 1 := by decide

example : hashInput (mkKey 16777215 255 4294967295) = 18446744073709551615 := by decide
example : (⟨4294967295, 4294967295⟩ : Key).wf ∧ (⟨4294967295, 1⟩ : Key).wf := by
  unfold Key.wf; decide
example : hashInput ⟨4294967295, 4294967295⟩ ≠ hashInput ⟨4294967295, 1⟩ := by decide
-- outside `wf` the hash input is not injective (the `u32` hypothesis is needed)
example : hashInput ⟨1, 1⟩ = hashInput ⟨1, 4294967297⟩ := by decide

example : decodeIdx (encodeIdx (.data 16777215)) = .data 16777215 := by decide
example : decodeIdx (encodeIdx (.free 16777215)) = .free 16777215 := by decide
example : decodeIdx (encodeIdx .freeEnd) = .freeEnd := by decide
example : decodeIdx (encodeIdx (.data 16777215)) = .data 16777215 :=
  decode_encode (by intro i h; cases h; decide) (by intro n h; cases h)
example : encodeIdx (.free 16777215) < U32 :=
  encode_lt (by intro i h; cases h) (by intro n h; cases h; decide)
-- the payload bound is needed: `free (2^31 - 1)` would collide with the end marker
example : decodeIdx (encodeIdx (.free 2147483647)) = .freeEnd := by decide
example : (decodeIdx 2147483648).isFree = true := by decide
example : (decodeIdx 2147483647).isFree = false := by decide
example : (decodeIdx 4294967295).isFree = true := by decide
example : FREE_BIT &&& 2147483648 ≠ 0 := by decide
example : FREE_BIT &&& 2147483647 = 0 := by decide

end Examples

#print axioms packKey_eq_mkKey
#print axioms keyId_pack
#print axioms keyIndex_pack
#print axioms packKey_lt
#print axioms Key.archId_mkKey
#print axioms Key.index_mkKey
#print axioms keyIndex_eq
#print axioms Key.index_lt
#print axioms mkKey_inj
#print axioms fromRaw_raw
#print axioms fromRaw_none_iff
#print axioms raw_fromRaw
#print axioms tryFrom_iff
#print axioms fromAny_iff
#print axioms fromAnyUnchecked_release
#print axioms fromAnyUnchecked_debug
#print axioms selectArch_spec
#print axioms selectArch_none_iff
#print axioms selectEntity_spec
#print axioms selectEntity_none_iff
#print axioms selectArchetypeId_spec
#print axioms hashInput_inj
#print axioms decode_encode
#print axioms encode_lt
#print axioms free_end_not_index
#print axioms max_index_lt_free_bit
#print axioms decodeIdx_isFree
#print axioms freeBit_and_ne_zero_iff

end Gecs
