/-
World-level plumbing (`setArch`, `liftArch`, `lookup`, `World.withCapacity`, the column-count schema
`World.sch`), where a key use is routed to, and the lookup theorems.  Each storage-level lookup has
one fact, `Out.Looked`: the hit is exactly the reading `Q` names, anything else is a miss or a
panic, the storage is handed back as it was.  `lookup_looked` carries it through any route to the
world, `lookup_arch_iff` through `.arch a k` as an equivalence.  From them: under `WInv` every
well-scoped use (next paragraph) of every key — forged, stale, foreign, of any kind, typed with a
mismatching id — is answered by `ok` or `panic` in the SAME world, never by `ub` (the `…_safe`
theorems), and a key is accepted exactly when the storage says so, with the reading it says (the
`…_iff` theorems; through any route `fetch_ok`, `toDirect_ent_ok`, `toDirect_dir_ok`).

A *typed* key use names its archetype statically (`u.at_.getD u.h.a`).  In Rust that archetype
exists, or the program does not type-check; the model uses a number and answers
`.ub "no such archetype"` when no archetype has that index.  The lookup theorems therefore carry
the hypothesis `u.Scoped w.archs.length` (`KeyUse.Scoped`), and are false without it: `WorldEx.uBad`
at the end of the file.
-/
import Gecs.Lemmas.StoragePaths
import Gecs.Lemmas.Bits

namespace Gecs
variable {α : Type}

theorem getElem?_some_of_length_eq {β γ : Type} {l : List β} {l' : List γ}
    (h : l'.length = l.length) {a : Nat} {x : β} (g : l[a]? = some x) : ∃ y, l'[a]? = some y :=
  ⟨_, List.getElem?_eq_getElem (h ▸ (List.getElem?_eq_some_iff.mp g).1)⟩

theorem World.setArch_self {w : World α} {a : Nat} {s : Storage α} (h : w.archs[a]? = some s) :
    w.setArch a s = w := by
  obtain ⟨hlt, rfl⟩ := List.getElem?_eq_some_iff.mp h
  cases w
  simp only [World.setArch, List.set_getElem_self]

@[simp] theorem World.setArch_ids (w : World α) (a : Nat) (s : Storage α) :
    (w.setArch a s).ids = w.ids := rfl

@[simp] theorem World.setArch_length (w : World α) (a : Nat) (s : Storage α) :
    (w.setArch a s).archs.length = w.archs.length := by
  simp [World.setArch]

theorem World.setArch_get_self {w : World α} {a : Nat} (s : Storage α) (h : a < w.archs.length) :
    (w.setArch a s).archs[a]? = some s := by
  simp [World.setArch, h]

theorem World.setArch_get_ne {w : World α} {a b : Nat} (s : Storage α) (h : a ≠ b) :
    (w.setArch a s).archs[b]? = w.archs[b]? := by
  simp [World.setArch, List.getElem?_set_ne h]

theorem WInv.get {cfg : Cfg} {w : World α} (hw : WInv cfg w) {a : Nat} {s : Storage α}
    (h : w.archs[a]? = some s) : Inv cfg s :=
  hw.inv s (List.mem_of_getElem? h)

theorem WInv.setArch {cfg : Cfg} {w : World α} (hw : WInv cfg w) (a : Nat) {s' : Storage α}
    (hs : Inv cfg s') : WInv cfg (w.setArch a s') where
  idsLen := by rw [World.setArch_ids, World.setArch_length]; exact hw.idsLen
  idsNodup := hw.idsNodup
  idsLt := hw.idsLt
  inv := by
    intro s hm
    rcases List.mem_or_eq_of_mem_set hm with h | h
    · exact hw.inv s h
    · rw [h]; exact hs

theorem liftArch_none {β : Type} {w : World α} {a : Nat} (f : Storage α → Out (Storage α) β)
    (h : w.archs[a]? = none) : liftArch w a f = .ub "no such archetype" := by
  simp [liftArch, h]

theorem liftArch_some {β : Type} {w : World α} {a : Nat} {s : Storage α}
    (f : Storage α → Out (Storage α) β) (h : w.archs[a]? = some s) :
    liftArch w a f =
      (match f s with
       | .ok b s' => .ok b (w.setArch a s')
       | .panic m s' => .panic m (w.setArch a s')
       | .ub m => .ub m) := by
  simp only [liftArch, h]
  cases f s <;> rfl

theorem liftArch_ok {β : Type} {w : World α} {a : Nat} {s s' : Storage α} {b : β}
    {f : Storage α → Out (Storage α) β} (h : w.archs[a]? = some s) (hf : f s = .ok b s') :
    liftArch w a f = .ok b (w.setArch a s') := by
  rw [liftArch_some f h, hf]

theorem liftArch_panic {β : Type} {w : World α} {a : Nat} {s s' : Storage α} {m : String}
    {f : Storage α → Out (Storage α) β} (h : w.archs[a]? = some s) (hf : f s = .panic m s') :
    liftArch w a f = .panic m (w.setArch a s') := by
  rw [liftArch_some f h, hf]

theorem liftArch_ok_same {β : Type} {w : World α} {a : Nat} {s : Storage α} {b : β}
    {f : Storage α → Out (Storage α) β} (h : w.archs[a]? = some s) (hf : f s = .ok b s) :
    liftArch w a f = .ok b w := by
  rw [liftArch_ok h hf, World.setArch_self h]

theorem liftArch_panic_same {β : Type} {w : World α} {a : Nat} {s : Storage α} {m : String}
    {f : Storage α → Out (Storage α) β} (h : w.archs[a]? = some s) (hf : f s = .panic m s) :
    liftArch w a f = .panic m w := by
  rw [liftArch_panic h hf, World.setArch_self h]

theorem liftArch_ok_inv {β : Type} {w w' : World α} {a : Nat} {b : β}
    {f : Storage α → Out (Storage α) β} (h : liftArch w a f = .ok b w') :
    ∃ s s', w.archs[a]? = some s ∧ f s = .ok b s' ∧ w' = w.setArch a s'
      ∧ w'.archs[a]? = some s' := by
  cases ga : w.archs[a]? with
  | none => rw [liftArch_none _ ga] at h; cases h
  | some s =>
    rw [liftArch_some _ ga] at h
    cases hf : f s with
    | ub m => rw [hf] at h; cases h
    | panic m s' => rw [hf] at h; cases h
    | ok b' s' =>
      rw [hf] at h; cases h
      exact ⟨s, s', rfl, hf, rfl, World.setArch_get_self s' (List.getElem?_eq_some_iff.mp ga).1⟩

@[simp] theorem lookup_absent {β : Type} (w : World α)
    (f : Storage α → Key → Out (Storage α) (Option β)) : lookup w .absent f = .ok none w := rfl

@[simp] theorem lookup_panic {β : Type} (w : World α) (m : String)
    (f : Storage α → Key → Out (Storage α) (Option β)) : lookup w (.panic m) f = .panic m w := rfl

@[simp] theorem lookup_arch {β : Type} (w : World α) (a : Nat) (k : Key)
    (f : Storage α → Key → Out (Storage α) (Option β)) :
    lookup w (.arch a k) f = liftArch w a (fun s => f s k) := rfl

theorem lookup_ok_some_arch {β : Type} {w w' : World α} {r : Route}
    {f : Storage α → Key → Out (Storage α) (Option β)} {b : β}
    (h : lookup w r f = .ok (some b) w') : ∃ a k, r = .arch a k := by
  cases r with
  | arch a k => exact ⟨a, k, rfl⟩
  | absent => cases h
  | panic m => cases h

/-- The column-count schema of a world: number of columns of each archetype (fixed by the
`ecs_world!` declaration). -/
def World.sch (w : World α) : List Nat := w.archs.map (fun s => s.cols.length)

@[simp] theorem World.sch_length (w : World α) : w.sch.length = w.archs.length := by
  simp [World.sch]

theorem World.sch_get {w : World α} {a n : Nat} (h : w.sch[a]? = some n) :
    ∃ s, w.archs[a]? = some s ∧ s.cols.length = n := by
  simp only [World.sch, List.getElem?_map] at h
  cases hs : w.archs[a]? with
  | none => rw [hs] at h; cases h
  | some s => rw [hs] at h; exact ⟨s, rfl, by simpa using h⟩

theorem World.sch_of_get {w : World α} {a : Nat} {s : Storage α} (g : w.archs[a]? = some s) :
    w.sch[a]? = some s.cols.length := by
  simp [World.sch, g]

theorem withCapacity_go_ok (cfg : Cfg) (ids : List Nat) (hv : CfgOk cfg) :
    ∀ (ncs caps : List Nat) (acc : List (Storage α)), ncs.length = caps.length →
      (∀ c ∈ caps, c ≤ cfg.maxCap) →
      ∃ l : List (Storage α),
        World.withCapacity.go cfg ids ncs caps acc = .ok () ⟨ids, acc ++ l⟩
        ∧ l.length = ncs.length
        ∧ (∀ s ∈ l, Inv cfg s ∧ s.len = 0 ∧ s.version = 1 ∧ s.created = [] ∧ s.destroyed = [])
        ∧ l.map (fun s => s.capacity) = caps
        ∧ l.map (fun s => s.cols.length) = ncs := by
  intro ncs
  induction ncs with
  | nil =>
    intro caps acc hl _
    cases caps with
    | nil => exact ⟨[], by simp [World.withCapacity.go], rfl, by simp, rfl, rfl⟩
    | cons c caps => simp at hl
  | cons n ncs ih =>
    intro caps acc hl hc
    cases caps with
    | nil => simp at hl
    | cons c caps =>
      have hcm := hc c List.mem_cons_self
      obtain ⟨l, g1, g2, g3, g4, g5⟩ :=
        ih caps (acc ++ [(emptyStorage n).grown c]) (by simpa using hl)
          (fun c' hc' => hc c' (List.mem_cons_of_mem _ hc'))
      refine ⟨(emptyStorage n).grown c :: l, ?_, by simp [g2], ?_, by simp [g4, Storage.grown],
        by simp [g5, Storage.grown, emptyStorage]⟩
      · simp only [World.withCapacity.go, withCapacity_eq cfg n c hcm]
        rw [g1]; simp
      · intro s' hs'
        rcases List.mem_cons.mp hs' with rfl | hs'
        · exact ⟨withCapacity_inv cfg n c hcm hv, rfl, rfl, rfl, rfl⟩
        · exact g3 s' hs'

theorem World.withCapacity_winv (cfg : Cfg) (ids ncols caps : List Nat)
    (hnd : ids.Nodup) (hlt : ∀ i ∈ ids, i < ID_RANGE) (hl1 : ids.length = ncols.length)
    (hl2 : ncols.length = caps.length) (hc : ∀ c ∈ caps, c ≤ cfg.maxCap) (hv : CfgOk cfg) :
    ∃ w : World α, World.withCapacity cfg ids ncols caps = .ok () w ∧ WInv cfg w ∧ w.ids = ids
      ∧ (∀ s ∈ w.archs, s.len = 0)
      ∧ w.archs.map (fun s => s.capacity) = caps
      ∧ w.sch = ncols
      ∧ (∀ s ∈ w.archs, s.version = 1 ∧ s.created = [] ∧ s.destroyed = []) := by
  obtain ⟨l, g1, g2, g3, g4, g5⟩ := withCapacity_go_ok (α := α) cfg ids hv ncols caps [] hl2 hc
  refine ⟨⟨ids, l⟩, by simpa [World.withCapacity] using g1, ?_, rfl, fun s hs => (g3 s hs).2.1,
    g4, g5, fun s hs => ⟨(g3 s hs).2.2.1, (g3 s hs).2.2.2⟩⟩
  exact ⟨by simp [g2, hl1], hnd, hlt, fun s hs => (g3 s hs).1⟩

theorem World.withCapacity_capacity {w : World α} {caps : List Nat}
    (h : w.archs.map (fun s => s.capacity) = caps) (i : Nat) (s : Storage α)
    (hs : w.archs[i]? = some s) : caps[i]? = some s.capacity := by
  rw [← h, List.getElem?_map, hs]; rfl

theorem withCapacity_go_panic (cfg : Cfg) (ids : List Nat) :
    ∀ (ncs caps : List Nat) (acc : List (Storage α)), ncs.length = caps.length →
      (∃ c ∈ caps, c > cfg.maxCap) →
      ∃ acc', World.withCapacity.go cfg ids ncs caps acc
        = .panic "capacity may not exceed" ⟨ids, acc'⟩ := by
  intro ncs
  induction ncs with
  | nil =>
    intro caps acc hl hc
    cases caps with
    | nil => obtain ⟨c, hc, _⟩ := hc; cases hc
    | cons c caps => simp at hl
  | cons n ncs ih =>
    intro caps acc hl hc
    cases caps with
    | nil => simp at hl
    | cons c caps =>
      by_cases hbad : c > cfg.maxCap
      · exact ⟨acc, by simp [World.withCapacity.go, withCapacity, hbad]⟩
      · have h1 := withCapacity_eq (α := α) cfg n c (by omega)
        obtain ⟨c', hc', hgt⟩ := hc
        have hc'' : c' ∈ caps := by
          rcases List.mem_cons.mp hc' with rfl | h
          · exact absurd hgt hbad
          · exact h
        obtain ⟨acc', g⟩ := ih caps (acc ++ [_]) (by simpa using hl) ⟨c', hc'', hgt⟩
        exact ⟨acc', by simp only [World.withCapacity.go, h1]; exact g⟩

theorem World.withCapacity_panics (cfg : Cfg) (ids ncols caps : List Nat)
    (hl2 : ncols.length = caps.length) (hbad : ∃ c ∈ caps, c > cfg.maxCap) :
    ∃ w : World α, World.withCapacity cfg ids ncols caps = .panic "capacity may not exceed" w := by
  obtain ⟨acc', g⟩ := withCapacity_go_panic (α := α) cfg ids ncols caps [] hl2 hbad
  exact ⟨⟨ids, acc'⟩, by simpa [World.withCapacity] using g⟩

/-- Static well-scopedness of a key use: a *typed* use (`Entity<A>` / `EntityDirect<A>`, or an
archetype-level call `A::…`) names an archetype that exists in the world.  This is a guarantee
of the Rust type system (there is no type `A` otherwise); the model, which uses numbers for
archetypes, answers `.ub "no such archetype"` without it.  Untyped (dynamic) uses are
unconstrained: every word pattern is allowed. -/
def KeyUse.Scoped (n : Nat) (u : KeyUse) : Prop := u.typed = true → u.at_.getD u.h.a < n

theorem KeyUse.scoped_of_untyped {n : Nat} {u : KeyUse} (h : u.typed = false) : u.Scoped n := by
  intro ht; rw [h] at ht; cases ht

theorem kindOf_isTyped (t d : Bool) : (kindOf t d).isTyped = t := by cases t <;> cases d <;> rfl
theorem kindOf_isDirect (t d : Bool) : (kindOf t d).isDirect = d := by cases t <;> cases d <;> rfl

theorem getD_of_getElem? {ids : List Nat} {a id : Nat} (h : ids[a]? = some id) :
    ids.getD a ID_RANGE = id := by
  simp [List.getD_eq_getElem?_getD, h]

theorem getElem?_of_getD_lt {ids : List Nat} {a id : Nat} (h : ids.getD a ID_RANGE = id)
    (hlt : id < ID_RANGE) : ids[a]? = some id := by
  rw [List.getD_eq_getElem?_getD] at h
  cases hg : ids[a]? with
  | none => rw [hg, Option.getD_none] at h; exact absurd (h ▸ hlt) (Nat.lt_irrefl _)
  | some x => rw [hg, Option.getD_some] at h; rw [h]

theorem Key.archId_ne_getD {ids : List Nat} {k : Key} (hid : k.archId ∉ ids) (b : Nat) :
    ¬ k.archId = ids.getD b ID_RANGE :=
  fun heq => hid (List.mem_of_getElem? (getElem?_of_getD_lt heq.symm (Key.archId_lt _)))

theorem route_typed_eq {cfg : Cfg} {ids : List Nat} {u : KeyUse} (ht : u.typed = true) :
    u.route cfg ids =
      if cfg.debug = true ∧ u.h.key.archId ≠ ids.getD (u.at_.getD u.h.a) ID_RANGE
      then .panic "debug_assert: from_any_unchecked" else .arch (u.at_.getD u.h.a) u.h.key := by
  unfold KeyUse.route
  simp only [ht, if_true]
  by_cases hnd : cfg.debug = true ∧ u.h.key.archId ≠ ids.getD (u.at_.getD u.h.a) ID_RANGE
  · rw [if_pos hnd, if_pos hnd]
  · rw [if_neg hnd, if_neg hnd]
    cases hwl : u.worldLevel
    · simp only [Bool.false_eq_true, if_false, routeArch, kindOf_isTyped, if_true]
    · simp only [if_true, routeWorld, kindOf_isTyped]

theorem route_typed {cfg : Cfg} {ids : List Nat} {u : KeyUse} (ht : u.typed = true)
    (hd : cfg.debug = true → u.h.key.archId = ids.getD (u.at_.getD u.h.a) ID_RANGE) :
    u.route cfg ids = .arch (u.at_.getD u.h.a) u.h.key := by
  rw [route_typed_eq ht, if_neg fun ⟨h1, h2⟩ => h2 (hd h1)]

theorem route_typed_arch {cfg : Cfg} {ids : List Nat} {u : KeyUse} {a : Nat} {k : Key}
    (ht : u.typed = true) (h : u.route cfg ids = .arch a k) :
    a = u.at_.getD u.h.a ∧ k = u.h.key
      ∧ (cfg.debug = true → u.h.key.archId = ids.getD a ID_RANGE) := by
  rw [route_typed_eq ht] at h
  by_cases hnd : cfg.debug = true ∧ u.h.key.archId ≠ ids.getD (u.at_.getD u.h.a) ID_RANGE
  · rw [if_pos hnd] at h; cases h
  · rw [if_neg hnd] at h; cases h
    exact ⟨rfl, rfl, fun h1 => Decidable.by_contra fun h2 => hnd ⟨h1, h2⟩⟩

/-- A dynamic use at world level: the generated `match` on the id byte (the
`from_any_unchecked` in the selected arm never fires: the arm was selected by that id). -/
theorem route_dynamic_world {cfg : Cfg} {ids : List Nat} {u : KeyUse}
    (ht : u.typed = false) (hwl : u.worldLevel = true) :
    u.route cfg ids =
      match selectArch ids u.h.key.archId with
      | none => .panic "invalid entity type"
      | some a => .arch a u.h.key := by
  unfold KeyUse.route
  simp only [ht, hwl, Bool.false_eq_true, if_false, if_true, routeWorld, kindOf_isTyped]
  cases hsel : selectArch ids u.h.key.archId with
  | none => rfl
  | some a =>
    have hid : ids.getD a ID_RANGE = u.h.key.archId := getD_of_getElem? (selectArch_some hsel)
    simp only []
    rw [fromAnyUnchecked_of_eq cfg hid.symm]

/-- A dynamic use at archetype level: `try_from`. -/
theorem route_dynamic_arch {cfg : Cfg} {ids : List Nat} {u : KeyUse}
    (ht : u.typed = false) (hwl : u.worldLevel = false) :
    u.route cfg ids =
      if u.h.key.archId = ids.getD (u.at_.getD u.h.a) ID_RANGE
      then .arch (u.at_.getD u.h.a) u.h.key else .absent := by
  unfold KeyUse.route
  simp only [ht, hwl, Bool.false_eq_true, if_false, routeArch, kindOf_isTyped, tryFromAny]
  by_cases hc : u.h.key.archId = ids.getD (u.at_.getD u.h.a) ID_RANGE
  · rw [if_pos hc, if_pos hc]
  · rw [if_neg hc, if_neg hc]

theorem route_dynamic_to {cfg : Cfg} {ids : List Nat} {u : KeyUse} {a : Nat} {k : Key}
    (ht : u.typed = false) (h : u.route cfg ids = .arch a k) :
    k = u.h.key ∧ ids[a]? = some u.h.key.archId := by
  cases hwl : u.worldLevel
  · rw [route_dynamic_arch ht hwl] at h
    by_cases heq : u.h.key.archId = ids.getD (u.at_.getD u.h.a) ID_RANGE
    · rw [if_pos heq] at h
      cases h
      exact ⟨rfl, getElem?_of_getD_lt heq.symm (Key.archId_lt _)⟩
    · rw [if_neg heq] at h; cases h
  · rw [route_dynamic_world ht hwl] at h
    cases hsel : selectArch ids u.h.key.archId with
    | none => rw [hsel] at h; cases h
    | some a' =>
      rw [hsel] at h
      cases h
      exact ⟨rfl, selectArch_some hsel⟩

theorem route_key {cfg : Cfg} {ids : List Nat} {u : KeyUse} {a : Nat} {k : Key}
    (h : u.route cfg ids = .arch a k) : k = u.h.key := by
  cases ht : u.typed
  · exact (route_dynamic_to ht h).1
  · exact (route_typed_arch ht h).2.1

/-- What a lookup answers under the invariant: the hit `b` whenever `Q b` holds (`hit`), and nothing
but a hit of which `Q` holds, a miss or a panic (`cases`); the storage is handed back exactly as it
was.  Each lookup has one such fact. -/
structure Out.Looked {β : Type} (s : Storage α) (Q : β → Prop) (o : Out (Storage α) (Option β)) :
    Prop where
  cases : (∃ b, o = .ok (some b) s ∧ Q b) ∨ o = .ok none s ∨ ∃ m, o = .panic m s
  hit : ∀ b, Q b → o = .ok (some b) s

namespace Out.Looked
variable {β : Type} {s : Storage α} {Q : β → Prop} {o : Out (Storage α) (Option β)}

theorem of_hit (h : ∀ b, Q b → o = .ok (some b) s) {b : β} (q : Q b) : Out.Looked s Q o :=
  ⟨.inl ⟨b, h b q, q⟩, h⟩

theorem of_not (hn : ∀ b, ¬ Q b) (h : o = .ok none s ∨ ∃ m, o = .panic m s) : Out.Looked s Q o :=
  ⟨.inr h, fun b q => (hn b q).elim⟩

theorem of_miss {P : Prop} [Decidable P] (hn : ∀ b, ¬ Q b) (h : o = Out.miss s P) :
    Out.Looked s Q o :=
  .of_not hn ((Out.miss_cases h).imp_right fun h => ⟨_, h.1⟩)

end Out.Looked

theorem storageResolve_looked {cfg : Cfg} {s : Storage α} (h : Inv cfg s) (direct : Bool)
    (k : Key) :
    Out.Looked s (fun d => d < s.len ∧ (direct = false → s.ents[d]? = some k.toEnt)
      ∧ (direct = true → d = k.index ∧ k.ver = s.version)) (storageResolve cfg s direct k) := by
  unfold storageResolve
  cases direct
  · rw [if_neg Bool.false_ne_true]
    by_cases hm : k.toEnt ∈ s.ents
    · obtain ⟨d, hd⟩ := List.getElem?_of_mem hm
      exact .of_hit (fun _ q => resolveForEnt_of_mem h (q.2.1 rfl))
        ⟨h.ents_lt hd, fun _ => hd, nofun⟩
    · exact .of_miss (fun _ q => hm (List.mem_of_getElem? (q.2.1 rfl)))
        (resolveForEnt_of_not_mem h hm)
  · rw [if_pos rfl]
    by_cases hc : k.ver = s.version ∧ k.index < s.len
    · exact .of_hit (fun _ q => by rw [(q.2.2 rfl).1, hc.1]; exact resolveForDirect_of_lt h hc.2)
        ⟨hc.2, nofun, fun _ => ⟨rfl, hc.1⟩⟩
    · exact .of_miss (fun _ q => hc ⟨(q.2.2 rfl).2, (q.2.2 rfl).1 ▸ q.1⟩)
        (resolveForDirect_of_not hc)

theorem storageFetch_looked {cfg : Cfg} {s : Storage α} (h : Inv cfg s) (direct : Bool)
    (k : Key) :
    Out.Looked s (fun p : Nat × Ent × List α => s.ents[p.1]? = some p.2.1
        ∧ readRow s p.1 = some p.2.2 ∧ (direct = false → p.2.1 = k.toEnt)
        ∧ (direct = true → p.1 = k.index ∧ k.ver = s.version))
      (storageFetch cfg s direct k) := by
  have hres := storageResolve_looked h direct k
  unfold storageFetch
  constructor
  · rcases hres.cases with ⟨d, hb, hd, h3, h4⟩ | hb | ⟨m, hb⟩ <;> rw [hb]
    · obtain ⟨e0, he⟩ := h.ents_get hd
      have hrow := readRow_of_lt h hd
      simp only [he, hrow]
      exact .inl ⟨_, rfl, he, hrow, fun hc => Option.some.inj (he.symm.trans (h3 hc)), h4⟩
    · exact .inr (.inl rfl)
    · exact .inr (.inr ⟨m, rfl⟩)
  · rintro ⟨d, e, row⟩ ⟨he, hrow, h3, h4⟩
    rw [hres.hit d ⟨h.ents_lt he, fun hc => h3 hc ▸ he, h4⟩]
    simp only [he, hrow]

theorem storageToDirect_looked {cfg : Cfg} {s : Storage α} (h : Inv cfg s) (idA : Nat)
    (direct : Bool) (k : Key) :
    Out.Looked s (fun k' =>
        (direct = false → ∃ d, s.ents[d]? = some k.toEnt ∧ k' = mkKey d idA s.version)
        ∧ (direct = true → k' = k ∧ k.ver = s.version ∧ k.index < s.len))
      (storageToDirect cfg idA s direct k) := by
  unfold storageToDirect
  cases direct
  · rw [if_neg Bool.false_ne_true]
    by_cases hm : k.toEnt ∈ s.ents
    · obtain ⟨d, hd⟩ := List.getElem?_of_mem hm
      refine .of_hit (fun k' q => ?_) ⟨fun _ => ⟨d, hd, rfl⟩, nofun⟩
      obtain ⟨d', hd', rfl⟩ := q.1 rfl
      rw [toDirectEnt_of_mem h hd']
    · refine .of_not (fun k' q => ?_) ?_
      · obtain ⟨d, hd, _⟩ := q.1 rfl
        exact hm (List.mem_of_getElem? hd)
      · rcases Out.miss_cases (toDirectEnt_of_not_mem h hm) with h1 | ⟨h1, _⟩ <;> rw [h1]
        · exact .inl rfl
        · exact .inr ⟨_, rfl⟩
  · rw [if_pos rfl]
    by_cases hc : k.ver = s.version ∧ k.index < s.len
    · refine .of_hit (fun k' q => ?_) ⟨nofun, fun _ => ⟨rfl, hc⟩⟩
      rw [(q.2 rfl).1, hc.1, toDirectDirect_of_lt h hc.2]
    · refine .of_not (fun k' q => hc (q.2 rfl).2) ?_
      rcases Out.miss_cases (toDirectDirect_of_not (cfg := cfg) hc) with h1 | ⟨h1, _⟩ <;> rw [h1]
      · exact .inl rfl
      · exact .inr ⟨_, rfl⟩

/-- A routed lookup by a storage function that only looks: a hit in the archetype routed to, with
its reading, a miss or a panic, each in the world as it was — or the route names an archetype
that does not exist, the one way to `ub`. -/
theorem lookup_looked {β : Type} {cfg : Cfg} {w : World α} (hw : WInv cfg w) (r : Route)
    {f : Storage α → Key → Out (Storage α) (Option β)} {Q : Storage α → Key → β → Prop}
    (hf : ∀ s k, Inv cfg s → Out.Looked s (Q s k) (f s k)) :
    (∃ a k s b, r = .arch a k ∧ w.archs[a]? = some s ∧ lookup w r f = .ok (some b) w ∧ Q s k b)
    ∨ lookup w r f = .ok none w ∨ (∃ m, lookup w r f = .panic m w)
    ∨ ∃ a k, r = .arch a k ∧ w.archs[a]? = none := by
  cases r with
  | absent => exact .inr (.inl rfl)
  | panic m => exact .inr (.inr (.inl ⟨m, rfl⟩))
  | arch a k =>
    cases hs : w.archs[a]? with
    | none => exact .inr (.inr (.inr ⟨a, k, rfl, hs⟩))
    | some s =>
      rcases (hf s k (hw.get hs)).cases with ⟨b, hb, q⟩ | hb | ⟨m, hb⟩
      · exact .inl ⟨a, k, s, b, rfl, hs, liftArch_ok_same hs hb, q⟩
      · exact .inr (.inl (liftArch_ok_same hs hb))
      · exact .inr (.inr (.inl ⟨m, liftArch_panic_same hs hb⟩))

theorem lookup_safe {β : Type} {cfg : Cfg} {w : World α} (hw : WInv cfg w) {r : Route}
    {f : Storage α → Key → Out (Storage α) (Option β)} {Q : Storage α → Key → β → Prop}
    (hr : ∀ a k, r = .arch a k → a < w.archs.length)
    (hf : ∀ s k, Inv cfg s → Out.Looked s (Q s k) (f s k)) :
    (∃ b, lookup w r f = .ok b w) ∨ (∃ m, lookup w r f = .panic m w) := by
  rcases lookup_looked hw r hf with ⟨_, _, _, _, _, _, h, _⟩ | h | ⟨m, h⟩ | ⟨a, k, h, hn⟩
  · exact .inl ⟨_, h⟩
  · exact .inl ⟨_, h⟩
  · exact .inr ⟨m, h⟩
  · exact absurd (hr a k h) (Nat.not_lt.mpr (List.getElem?_eq_none_iff.mp hn))

theorem lookup_ok_some {β : Type} {cfg : Cfg} {w w' : World α} (hw : WInv cfg w) {r : Route}
    {f : Storage α → Key → Out (Storage α) (Option β)} {Q : Storage α → Key → β → Prop} {b : β}
    (hf : ∀ s k, Inv cfg s → Out.Looked s (Q s k) (f s k)) (h : lookup w r f = .ok (some b) w') :
    w' = w ∧ ∃ a k s, r = .arch a k ∧ w.archs[a]? = some s ∧ Q s k b := by
  rcases lookup_looked hw r hf with ⟨a, k, s, _, hr, hs, h', q⟩ | h' | ⟨m, h'⟩ | ⟨a, k, rfl, hn⟩
  · rw [h'] at h; cases h; exact ⟨rfl, a, k, s, hr, hs, q⟩
  · rw [h'] at h; cases h
  · rw [h'] at h; cases h
  · rw [lookup_arch, liftArch_none _ hn] at h; cases h

/-- Each of the six `…_iff` below is this, for one lookup and one kind of key. -/
theorem lookup_arch_iff {β : Type} {cfg : Cfg} {w w' : World α} (hw : WInv cfg w) {a : Nat}
    {k : Key} {f : Storage α → Key → Out (Storage α) (Option β)}
    {Q : Storage α → Key → β → Prop} {b : β}
    (hf : ∀ s k, Inv cfg s → Out.Looked s (Q s k) (f s k)) :
    lookup w (.arch a k) f = .ok (some b) w' ↔ w' = w ∧ ∃ s, w.archs[a]? = some s ∧ Q s k b := by
  constructor
  · intro h
    obtain ⟨h1, _, _, s, hr, hs, q⟩ := lookup_ok_some hw hf h
    cases hr
    exact ⟨h1, s, hs, q⟩
  · rintro ⟨rfl, s, hs, q⟩
    exact liftArch_ok_same hs ((hf s k (hw.get hs)).hit b q)

/-- `to_direct` is a lookup too; the id it mints with is that of the archetype routed to. -/
theorem World.toDirect_eq (cfg : Cfg) (w : World α) (r : Route) (direct : Bool) :
    w.toDirect cfg r direct = lookup w r (fun s k => storageToDirect cfg
      (match r with | .arch a _ => w.ids.getD a ID_RANGE | _ => ID_RANGE) s direct k) := by
  cases r <;> rfl

theorem WInv.route_lt {cfg : Cfg} {w : World α} (hw : WInv cfg w) {u : KeyUse}
    (hu : u.Scoped w.archs.length) {a : Nat} {k : Key} (h : u.route cfg w.ids = .arch a k) :
    a < w.archs.length := by
  cases ht : u.typed
  · rw [← hw.idsLen]
    exact (List.getElem?_eq_some_iff.mp (route_dynamic_to ht h).2).1
  · rw [(route_typed_arch ht h).1]
    exact hu ht

/-- `contains`/`resolve` through ANY key use (forged, stale, foreign words, any kind, a typed
key with a mismatching id, any `at_`): `ok` or `panic`, in the same world, never `ub`.
`direct` is arbitrary, not tied to `u.h.kind.isDirect`.  False without `hu` (`WorldEx.uBad`); `hu`
is vacuous for untyped uses (`KeyUse.scoped_of_untyped`) and says
`u.at_.getD u.h.a < w.archs.length` for typed ones (`contains_safe_typed`). -/
theorem contains_safe {cfg : Cfg} {w : World α} (hw : WInv cfg w) (u : KeyUse)
    (hu : u.Scoped w.archs.length) (direct : Bool) :
    (∃ r, w.contains cfg (u.route cfg w.ids) direct = .ok r w)
    ∨ (∃ m, w.contains cfg (u.route cfg w.ids) direct = .panic m w) :=
  lookup_safe hw (fun _ _ h => hw.route_lt hu h) fun _ k hs => storageResolve_looked hs _ k

theorem toDirect_safe {cfg : Cfg} {w : World α} (hw : WInv cfg w) (u : KeyUse)
    (hu : u.Scoped w.archs.length) (direct : Bool) :
    (∃ r, w.toDirect cfg (u.route cfg w.ids) direct = .ok r w)
    ∨ (∃ m, w.toDirect cfg (u.route cfg w.ids) direct = .panic m w) := by
  rw [World.toDirect_eq]
  exact lookup_safe hw (fun _ _ h => hw.route_lt hu h)
    fun _ k hs => storageToDirect_looked hs _ _ k

theorem fetch_safe {cfg : Cfg} {w : World α} (hw : WInv cfg w) (u : KeyUse)
    (hu : u.Scoped w.archs.length) (direct : Bool) :
    (∃ r, w.fetch cfg (u.route cfg w.ids) direct = .ok r w)
    ∨ (∃ m, w.fetch cfg (u.route cfg w.ids) direct = .panic m w) :=
  lookup_safe hw (fun _ _ h => hw.route_lt hu h) fun _ k hs => storageFetch_looked hs _ k

theorem contains_safe_typed {cfg : Cfg} {w : World α} (hw : WInv cfg w) (u : KeyUse)
    (hb : u.at_.getD u.h.a < w.archs.length) (direct : Bool) :
    (∃ r, w.contains cfg (u.route cfg w.ids) direct = .ok r w)
    ∨ (∃ m, w.contains cfg (u.route cfg w.ids) direct = .panic m w) :=
  contains_safe hw u (fun _ => hb) direct

theorem toDirect_safe_typed {cfg : Cfg} {w : World α} (hw : WInv cfg w) (u : KeyUse)
    (hb : u.at_.getD u.h.a < w.archs.length) (direct : Bool) :
    (∃ r, w.toDirect cfg (u.route cfg w.ids) direct = .ok r w)
    ∨ (∃ m, w.toDirect cfg (u.route cfg w.ids) direct = .panic m w) :=
  toDirect_safe hw u (fun _ => hb) direct

theorem fetch_safe_typed {cfg : Cfg} {w : World α} (hw : WInv cfg w) (u : KeyUse)
    (hb : u.at_.getD u.h.a < w.archs.length) (direct : Bool) :
    (∃ r, w.fetch cfg (u.route cfg w.ids) direct = .ok r w)
    ∨ (∃ m, w.fetch cfg (u.route cfg w.ids) direct = .panic m w) :=
  fetch_safe hw u (fun _ => hb) direct

theorem contains_ent_iff {cfg : Cfg} {w : World α} (hw : WInv cfg w) (a : Nat) (k : Key) (d : Nat) :
    w.contains cfg (.arch a k) false = .ok (some d) w
      ↔ (∃ s, w.archs[a]? = some s ∧ s.ents[d]? = some k.toEnt) := by
  refine (lookup_arch_iff hw fun _ k hs => storageResolve_looked hs false k).trans ⟨?_, ?_⟩
  · rintro ⟨_, s, hs, q⟩
    exact ⟨s, hs, q.2.1 rfl⟩
  · rintro ⟨s, hs, hd⟩
    exact ⟨rfl, s, hs, (hw.get hs).ents_lt hd, fun _ => hd, nofun⟩

theorem contains_dir_iff {cfg : Cfg} {w : World α} (hw : WInv cfg w) (a : Nat) (k : Key) (d : Nat) :
    w.contains cfg (.arch a k) true = .ok (some d) w
      ↔ (∃ s, w.archs[a]? = some s ∧ d = k.index ∧ k.ver = s.version ∧ d < s.len) := by
  refine (lookup_arch_iff hw fun _ k hs => storageResolve_looked hs true k).trans ⟨?_, ?_⟩
  · rintro ⟨_, s, hs, q⟩
    exact ⟨s, hs, (q.2.2 rfl).1, (q.2.2 rfl).2, q.1⟩
  · rintro ⟨s, hs, h1, h2, h3⟩
    exact ⟨rfl, s, hs, h3, nofun, fun _ => ⟨h1, h2⟩⟩

theorem fetch_ent_iff {cfg : Cfg} {w : World α} (hw : WInv cfg w) (a : Nat) (k : Key) (d : Nat)
    (e : Ent) (row : List α) (w' : World α) :
    w.fetch cfg (.arch a k) false = .ok (some (d, e, row)) w'
      ↔ w' = w ∧ e = k.toEnt
        ∧ ∃ s, w.archs[a]? = some s ∧ s.ents[d]? = some k.toEnt ∧ readRow s d = some row := by
  refine (lookup_arch_iff hw fun _ k hs => storageFetch_looked hs false k).trans ⟨?_, ?_⟩
  · rintro ⟨h1, s, hs, he, hrow, h3, _⟩
    exact ⟨h1, h3 rfl, s, hs, h3 rfl ▸ he, hrow⟩
  · rintro ⟨h1, h2, s, hs, he, hrow⟩
    exact ⟨h1, s, hs, h2 ▸ he, hrow, fun _ => h2, nofun⟩

theorem toDirect_ent_iff {cfg : Cfg} {w : World α} (hw : WInv cfg w) (a : Nat) (k k' : Key)
    (w' : World α) :
    w.toDirect cfg (.arch a k) false = .ok (some k') w'
      ↔ w' = w ∧ ∃ s d, w.archs[a]? = some s ∧ s.ents[d]? = some k.toEnt
          ∧ k' = mkKey d (w.ids.getD a ID_RANGE) s.version := by
  refine (lookup_arch_iff hw fun _ k hs => storageToDirect_looked hs _ false k).trans ⟨?_, ?_⟩
  · rintro ⟨h1, s, hs, q⟩
    obtain ⟨d, hd, hk⟩ := q.1 rfl
    exact ⟨h1, s, d, hs, hd, hk⟩
  · rintro ⟨h1, s, d, hs, hd, hk⟩
    exact ⟨h1, s, hs, fun _ => ⟨d, hd, hk⟩, nofun⟩

theorem fetch_dir_iff {cfg : Cfg} {w : World α} (hw : WInv cfg w) (a : Nat) (k : Key) (d : Nat)
    (e : Ent) (row : List α) (w' : World α) :
    w.fetch cfg (.arch a k) true = .ok (some (d, e, row)) w'
      ↔ w' = w ∧ d = k.index
        ∧ ∃ s, w.archs[a]? = some s ∧ k.ver = s.version ∧ s.ents[d]? = some e
          ∧ readRow s d = some row := by
  refine (lookup_arch_iff hw fun _ k hs => storageFetch_looked hs true k).trans ⟨?_, ?_⟩
  · rintro ⟨h1, s, hs, he, hrow, _, h4⟩
    exact ⟨h1, (h4 rfl).1, s, hs, (h4 rfl).2, he, hrow⟩
  · rintro ⟨h1, h2, s, hs, hv, he, hrow⟩
    exact ⟨h1, s, hs, he, hrow, nofun, fun _ => ⟨h2, hv⟩⟩

theorem toDirect_dir_iff {cfg : Cfg} {w : World α} (hw : WInv cfg w) (a : Nat) (k k' : Key)
    (w' : World α) :
    w.toDirect cfg (.arch a k) true = .ok (some k') w'
      ↔ w' = w ∧ k' = k ∧ ∃ s, w.archs[a]? = some s ∧ k.ver = s.version ∧ k.index < s.len := by
  refine (lookup_arch_iff hw fun _ k hs => storageToDirect_looked hs _ true k).trans ⟨?_, ?_⟩
  · rintro ⟨h1, s, hs, q⟩
    exact ⟨h1, (q.2 rfl).1, s, hs, (q.2 rfl).2⟩
  · rintro ⟨h1, h2, s, hs, h3⟩
    exact ⟨h1, s, hs, nofun, fun _ => ⟨h2, h3⟩⟩

theorem toDirect_dir_of_valid {cfg : Cfg} {w : World α} (hw : WInv cfg w) {a : Nat} {k : Key}
    {s : Storage α} (g : w.archs[a]? = some s) (hv : k.ver = s.version) (hd : k.index < s.len) :
    w.toDirect cfg (.arch a k) true = .ok (some k) w :=
  (toDirect_dir_iff hw a k k w).mpr ⟨rfl, rfl, s, g, hv, hd⟩

theorem fetch_dir_of_valid {cfg : Cfg} {w : World α} (hw : WInv cfg w) {a : Nat} {k : Key}
    {s : Storage α} {e : Ent} (g : w.archs[a]? = some s) (hv : k.ver = s.version)
    (hd : s.ents[k.index]? = some e) :
    ∃ row, readRow s k.index = some row
      ∧ w.fetch cfg (.arch a k) true = .ok (some (k.index, e, row)) w :=
  have hrow := readRow_of_lt (hw.get g) ((hw.get g).ents_lt hd)
  ⟨_, hrow, (fetch_dir_iff hw a k _ e _ w).mpr ⟨rfl, rfl, s, g, hv, hd, hrow⟩⟩

theorem fetch_ok {cfg : Cfg} {w w' : World α} (hw : WInv cfg w) {r : Route} {direct : Bool}
    {d : Nat} {e : Ent} {row : List α}
    (h : w.fetch cfg r direct = .ok (some (d, e, row)) w') :
    w' = w ∧ ∃ a k s, r = .arch a k ∧ w.archs[a]? = some s
      ∧ s.ents[d]? = some e ∧ readRow s d = some row
      ∧ (direct = false → e = k.toEnt) ∧ (direct = true → d = k.index ∧ k.ver = s.version) :=
  lookup_ok_some hw (fun _ k hs => storageFetch_looked hs direct k) h

theorem toDirect_ent_ok {cfg : Cfg} {w w' : World α} (hw : WInv cfg w) {r : Route} {k' : Key}
    (h : w.toDirect cfg r false = .ok (some k') w') :
    w' = w ∧ ∃ a k s d, r = .arch a k ∧ w.archs[a]? = some s ∧ s.ents[d]? = some k.toEnt
      ∧ k' = mkKey d (w.ids.getD a ID_RANGE) s.version := by
  rw [World.toDirect_eq] at h
  obtain ⟨h1, a, k, s, rfl, hs, hq, _⟩ :=
    lookup_ok_some hw (fun _ k hs => storageToDirect_looked hs _ false k) h
  obtain ⟨d, hd, hk⟩ := hq rfl
  exact ⟨h1, a, k, s, d, rfl, hs, hd, hk⟩

theorem toDirect_dir_ok {cfg : Cfg} {w w' : World α} (hw : WInv cfg w) {r : Route} {k' : Key}
    (h : w.toDirect cfg r true = .ok (some k') w') :
    w' = w ∧ ∃ a k s, r = .arch a k ∧ w.archs[a]? = some s ∧ k' = k ∧ k.ver = s.version
      ∧ k.index < s.len := by
  rw [World.toDirect_eq] at h
  obtain ⟨h1, a, k, s, hr, hs, _, hq⟩ :=
    lookup_ok_some hw (fun _ k hs => storageToDirect_looked hs _ true k) h
  exact ⟨h1, a, k, s, hr, hs, hq rfl⟩

namespace WorldEx
open StorageEx

/-- Two archetypes (ids 3 and 7) with 2 and 1 columns, capacities 2 and 0. -/
def wEx : World Nat :=
  ⟨[3, 7],
   [⟨1, 0, 2, .free 0, [⟨.free 1, 1⟩, ⟨.freeEnd, 1⟩], [], [[], []], [], []⟩,
    ⟨1, 0, 0, .freeEnd, [], [], [[]], [], []⟩]⟩

theorem wEx_eq (cfg : Cfg) (h : 2 ≤ cfg.maxCap) :
    World.withCapacity cfg [3, 7] [2, 1] [2, 0] = .ok () wEx := by
  have h1 : ¬ 2 > cfg.maxCap := by omega
  have h2 : ¬ 0 > cfg.maxCap := by omega
  simp [World.withCapacity, World.withCapacity.go, withCapacity, h1, h2, populate, wEx,
    VERSION_START, List.range, List.range.loop]

theorem wEx_winv (cfg : Cfg) (h : 2 ≤ cfg.maxCap) (hv : CfgOk cfg) : WInv cfg wEx := by
  obtain ⟨w, h1, h2, _⟩ := World.withCapacity_winv (α := Nat) cfg [3, 7] [2, 1] [2, 0]
    (by decide) (by decide) rfl rfl (by intro c hc; simp at hc; omega) hv
  rw [wEx_eq cfg h] at h1; cases h1; exact h2

example : World.withCapacity cfgEx [3, 7] [2, 1] [2, 0] = .ok () wEx := rfl
theorem wEx_inv : WInv cfgEx wEx := wEx_winv cfgEx (by decide) cfgEx_ok
example : WInv cfgEx wEx := wEx_inv
example : wEx.archs.map (fun s => s.cols.length) = [2, 1] := rfl

-- `World::with_capacity` beyond `MAX_DATA_CAPACITY` panics
example : ∃ w : World Nat, World.withCapacity cfgEx [3, 7] [2, 1] [2, 9]
    = .panic "capacity may not exceed" w :=
  World.withCapacity_panics cfgEx _ _ _ rfl ⟨9, by decide, by decide⟩

/-- A world with live entities: archetype 0 (id 3) is the 3-slot storage with one hole
(handles `(0,1)` at dense 0 and `(2,1)` at dense 1, slot 1 free at generation 2, archetype
version 2), archetype 1 (id 7) the full two-slot storage. -/
def w2 : World Nat := ⟨[3, 7], [holeEx, fullEx]⟩

theorem w2_winv : WInv cfgEx w2 where
  idsLen := rfl
  idsNodup := by decide
  idsLt := by decide
  inv := by
    intro s hs
    simp only [w2, List.mem_cons, List.not_mem_nil, or_false] at hs
    rcases hs with rfl | rfl
    · exact holeEx_inv
    · exact fullEx_inv

-- a live dynamic key (slot 2, generation 1, id 3), used at world level: accepted at dense 1
example : w2.contains cfgEx (KeyUse.route cfgEx w2.ids ⟨true, false, ⟨.any, 0, mkKey 2 3 1⟩, none⟩)
    false = .ok (some 1) w2 := rfl
example : w2.contains cfgEx (.arch 0 (mkKey 2 3 1)) false = .ok (some 1) w2 :=
  (contains_ent_iff w2_winv 0 _ 1).mpr ⟨holeEx, rfl, rfl⟩
-- a stale key (slot 1 was freed, its generation is now 2): refused
example : w2.contains cfgEx (KeyUse.route cfgEx w2.ids ⟨true, false, ⟨.any, 0, mkKey 1 3 1⟩, none⟩)
    false = .ok none w2 := rfl
-- a forged key with an unknown archetype id: the generated `match` panics
example : w2.contains cfgEx (KeyUse.route cfgEx w2.ids ⟨true, false, ⟨.any, 0, mkKey 0 9 1⟩, none⟩)
    false = .panic "invalid entity type" w2 := rfl
-- a foreign key (id 7) used as a typed key of archetype 0: debug assertion
example : w2.contains cfgEx (KeyUse.route cfgEx w2.ids ⟨true, true, ⟨.ent, 0, mkKey 0 7 1⟩, none⟩)
    false = .panic "debug_assert: from_any_unchecked" w2 := rfl
-- … and in a release build it is looked up in archetype 0 by its words (slot 0, gen 1: live)
example : w2.contains ⟨8, 5, false, true, false⟩
    (KeyUse.route ⟨8, 5, false, true, false⟩ w2.ids ⟨true, true, ⟨.ent, 0, mkKey 0 7 1⟩, none⟩)
    false = .ok (some 0) w2 := rfl
-- an out-of-range slot index in a debug build: assertion, world unchanged
example : w2.contains cfgEx (.arch 0 (mkKey 77 3 1)) false
    = .panic "debug_assert: invalid entity handle" w2 := rfl
-- direct keys: current version 2 accepted, stale version refused
example : w2.contains cfgEx (.arch 0 (mkKey 1 3 2)) true = .ok (some 1) w2 := rfl
example : w2.contains cfgEx (.arch 0 (mkKey 1 3 1)) true = .ok none w2 := rfl
-- fetch hands out the entity's own handle and row; to_direct mints (dense, id, version)
example : w2.fetch cfgEx (.arch 0 (mkKey 2 3 1)) false = .ok (some (1, ⟨2, 1⟩, [12, 22])) w2 := rfl
example : w2.toDirect cfgEx (.arch 0 (mkKey 2 3 1)) false = .ok (some (mkKey 1 3 2)) w2 := rfl
-- the `_safe` theorems apply to every untyped use, whatever its words
example (u : KeyUse) (ht : u.typed = false) :
    (∃ r, w2.fetch cfgEx (u.route cfgEx w2.ids) u.h.kind.isDirect = .ok r w2)
    ∨ (∃ m, w2.fetch cfgEx (u.route cfgEx w2.ids) u.h.kind.isDirect = .panic m w2) :=
  fetch_safe w2_winv u (KeyUse.scoped_of_untyped ht) _

/-! ### Counterexample to the `_safe` statements without `Scoped` -/

/-- release build (no debug assertions) -/
def cfgRel : Cfg := ⟨8, 5, false, true, false⟩

example : WInv cfgRel wEx := wEx_winv cfgRel (by decide) ⟨by decide⟩

/-- A typed key naming archetype 99 (does not exist): routed to `.arch 99`, every lookup is
`ub "no such archetype"`. -/
def uBad : KeyUse := ⟨true, true, ⟨.ent, 99, ⟨0, 1⟩⟩, none⟩

example : uBad.route cfgRel wEx.ids = .arch 99 ⟨0, 1⟩ := rfl
example : wEx.contains cfgRel (uBad.route cfgRel wEx.ids) false = .ub "no such archetype" := rfl
example : wEx.toDirect cfgRel (uBad.route cfgRel wEx.ids) false = .ub "no such archetype" := rfl
example : wEx.fetch cfgRel (uBad.route cfgRel wEx.ids) false = .ub "no such archetype" := rfl
example : ¬ uBad.Scoped wEx.archs.length := by
  intro h; exact absurd (h rfl) (by decide)

end WorldEx
end Gecs

section
open Gecs
#print axioms SReach.trans
#print axioms WInv.setArch
#print axioms liftArch_some
#print axioms World.withCapacity_winv
#print axioms World.withCapacity_panics
#print axioms contains_safe
#print axioms toDirect_safe
#print axioms fetch_safe
#print axioms contains_ent_iff
#print axioms contains_dir_iff
#print axioms fetch_ent_iff
#print axioms toDirect_ent_iff
#print axioms fetch_dir_iff
#print axioms toDirect_dir_iff
#print axioms toDirect_dir_of_valid
#print axioms fetch_dir_of_valid
#print axioms fetch_ok
#print axioms toDirect_ent_ok
#print axioms toDirect_dir_ok
end
