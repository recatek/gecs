/-
Theorems about the fault model `Gecs/Model/Faults.lean` (panicking `Clone::clone` during
`world.clone()`, panicking `Drop::drop` while dropping a world), for ALL inputs.

Everything rests on two inductions: `faultCut_spec` (both list cutters stop at the `k`-th
non-zero-sized value) and `fault_spec` (either `k` is too large and nothing faults, or the input
splits as `pre ++ (p ++ v :: s) :: post` around the faulting value `v`, and both outcomes are
written out in these pieces).  The other theorems read their conclusions off that split.
`World.drop_ok_eq_flatten` ties `dropFault`'s input to `World.drop`.
-/
import Gecs.Model.Faults

namespace Gecs

theorem nzCount_nil (isZ : α → Bool) : nzCount isZ ([] : List α) = 0 := rfl

theorem nzCount_cons (isZ : α → Bool) (v : α) (l : List α) :
    nzCount isZ (v :: l) = nzCount isZ l + if isZ v then 0 else 1 := by
  cases hv : isZ v <;> simp [nzCount, hv]

theorem faultCut_spec (isZ : α → Bool) (l : List α) (k : Nat) (hk : k < nzCount isZ l) :
    ∃ p v s, l = p ++ v :: s ∧ isZ v = false ∧ nzCount isZ p = k ∧
      takeBeforeFault isZ l k = p ∧ dropCut isZ l k = (p ++ [v], s) := by
  induction l generalizing k with
  | nil => simp [nzCount] at hk
  | cons x l ih =>
    rw [nzCount_cons] at hk
    cases hx : isZ x with
    | true =>
      obtain ⟨p, v, s, rfl, hv, hp, h1, h2⟩ := ih k (by simpa [hx] using hk)
      exact ⟨x :: p, v, s, rfl, hv, by simp [nzCount_cons, hx, hp],
        by simp [takeBeforeFault, hx, h1], by simp [dropCut, hx, h2]⟩
    | false =>
      cases k with
      | zero => exact ⟨[], x, l, rfl, hx, rfl, by simp [takeBeforeFault, hx], by simp [dropCut, hx]⟩
      | succ k =>
        obtain ⟨p, v, s, rfl, hv, hp, h1, h2⟩ := ih k (by simpa [hx] using hk)
        exact ⟨x :: p, v, s, rfl, hv, by simp [nzCount_cons, hx, hp],
          by simp [takeBeforeFault, hx, h1], by simp [dropCut, hx, h2]⟩

/-- Either `k` is too large and neither `world.clone()` nor the world drop faults, or the fault hits
the value `v` of the archetype `p ++ v :: s`.  Clone: the archetypes `pre` were cloned completely,
`p` is the cloned part of the faulting one.  Drop: the rest `s` is leaked, everything else is
dropped (the archetypes `post` during the unwind). -/
theorem fault_spec (isZ : α → Bool) (P : List (List α)) (k : Nat) :
    (nzCount isZ P.flatten ≤ k ∧ cloneFault isZ P k = none ∧ dropFault isZ P k = none) ∨
    ∃ pre p v s post, P = pre ++ (p ++ v :: s) :: post ∧ isZ v = false ∧
      k = nzCount isZ pre.flatten + nzCount isZ p ∧
      cloneFault isZ P k = some ⟨pre.flatten, p⟩ ∧
      dropFault isZ P k = some ⟨pre.flatten ++ (p ++ [v]) ++ post.flatten, s⟩ := by
  induction P generalizing k with
  | nil => exact .inl ⟨Nat.zero_le k, rfl, rfl⟩
  | cons a rest ih =>
    rw [cloneFault, dropFault]
    by_cases hk : k < nzCount isZ a
    · obtain ⟨p, v, s, rfl, hv, hp, h1, h2⟩ := faultCut_spec isZ a k hk
      rw [if_pos hk, if_pos hk, h1, h2]
      exact .inr ⟨[], p, v, s, rest, rfl, hv, hp ▸ (Nat.zero_add _).symm, rfl, rfl⟩
    · have hle := Nat.le_of_not_lt hk
      rw [if_neg hk, if_neg hk]
      rcases ih (k - nzCount isZ a) with ⟨h, h1, h2⟩ | ⟨pre, p, v, s, post, rfl, hv, hj, h1, h2⟩
      · rw [h1, h2, List.flatten_cons, nzCount_append]
        exact .inl ⟨Nat.add_le_of_le_sub' hle h, rfl, rfl⟩
      · rw [h1, h2]
        refine .inr ⟨a :: pre, p, v, s, post, rfl, hv, ?_, rfl, by simp⟩
        rw [List.flatten_cons, nzCount_append, Nat.add_assoc, ← hj, Nat.add_sub_cancel' hle]

theorem cloneFault_eq_some {isZ : α → Bool} {P : List (List α)} {k : Nat} {o : FaultOutcome α}
    (h : cloneFault isZ P k = some o) :
    ∃ pre p v s post, P = pre ++ (p ++ v :: s) :: post ∧ isZ v = false ∧
      k = nzCount isZ pre.flatten + nzCount isZ p ∧ o = ⟨pre.flatten, p⟩ := by
  rcases fault_spec isZ P k with ⟨-, hc, -⟩ | ⟨pre, p, v, s, post, hP, hv, hk, hc, -⟩
  · rw [hc] at h; cases h
  · exact ⟨pre, p, v, s, post, hP, hv, hk, Option.some.inj (h.symm.trans hc)⟩

theorem cloneFault_some_iff (isZ : α → Bool) (perArch : List (List α)) (k : Nat) :
    (cloneFault isZ perArch k).isSome ↔ k < ((perArch.flatten).filter (fun v => !isZ v)).length := by
  show _ ↔ k < nzCount isZ perArch.flatten
  rcases fault_spec isZ perArch k with ⟨hle, hc, -⟩ | ⟨pre, p, v, s, post, rfl, hv, rfl, hc, -⟩
  · rw [hc]; simpa using hle
  · rw [hc]; simp [nzCount_append, nzCount_cons, hv]

/-- Every clone that was made is either dropped or leaked, exactly once, in clone order;
exactly `k` of them are non-zero-sized; the next value in clone order is the (non-zero-sized)
faulting one, and nothing from there on was cloned. -/
theorem cloneFault_prefix (isZ : α → Bool) (perArch : List (List α)) (k : Nat)
    (o : FaultOutcome α) (h : cloneFault isZ perArch k = some o) :
    ∃ rest, perArch.flatten = o.dropped ++ o.leaked ++ rest ∧
      ((o.dropped ++ o.leaked).filter (fun v => !isZ v)).length = k ∧
      ∃ v rest', rest = v :: rest' ∧ isZ v = false := by
  obtain ⟨pre, p, v, s, post, rfl, hv, rfl, rfl⟩ := cloneFault_eq_some h
  exact ⟨v :: s ++ post.flatten, by simp, by simp [nzCount], v, _, rfl, hv⟩

/-- In terms of the driver's `expected` list (the non-zero-sized values in clone order):
the clones that were made are exactly its first `k` entries (so `dT + pT = k` and
`expected.take (dT + pT)` is the list of sources of the made clones). -/
theorem cloneFault_made_eq_take (isZ : α → Bool) (perArch : List (List α)) (k : Nat)
    (o : FaultOutcome α) (h : cloneFault isZ perArch k = some o) :
    (perArch.flatten.filter (fun v => !isZ v)).take k =
      (o.dropped ++ o.leaked).filter (fun v => !isZ v) := by
  obtain ⟨rest, h1, h2, _⟩ := cloneFault_prefix isZ perArch k o h
  rw [h1, List.filter_append, ← h2, List.take_left]

/-- The dropped clones are exactly those of the completely cloned archetypes; the leaked ones
are a prefix of the partially cloned archetype. -/
theorem cloneFault_dropped_whole_archetypes (isZ : α → Bool) (perArch : List (List α)) (k : Nat)
    (o : FaultOutcome α) (h : cloneFault isZ perArch k = some o) :
    ∃ n, o.dropped = (perArch.take n).flatten ∧ ∃ a, perArch[n]? = some a ∧ o.leaked <+: a := by
  obtain ⟨pre, p, v, s, post, rfl, -, -, rfl⟩ := cloneFault_eq_some h
  exact ⟨pre.length, by simp, p ++ v :: s, by simp, List.prefix_append _ _⟩

/-- The leaked prefix of the partially cloned archetype is a PROPER one: the archetype continues
with the faulting (non-zero-sized) value. -/
theorem cloneFault_leaked_then_fault (isZ : α → Bool) (perArch : List (List α)) (k : Nat)
    (o : FaultOutcome α) (h : cloneFault isZ perArch k = some o) :
    ∃ n a v rest, perArch[n]? = some a ∧ o.dropped = (perArch.take n).flatten ∧
      a = o.leaked ++ v :: rest ∧ isZ v = false := by
  obtain ⟨pre, p, v, s, post, rfl, hv, -, rfl⟩ := cloneFault_eq_some h
  exact ⟨pre.length, p ++ v :: s, v, s, by simp, by simp, rfl, hv⟩

theorem dropFault_eq_some {isZ : α → Bool} {P : List (List α)} {k : Nat} {o : FaultOutcome α}
    (h : dropFault isZ P k = some o) :
    ∃ pre p v s post, P = pre ++ (p ++ v :: s) :: post ∧ isZ v = false ∧
      k = nzCount isZ pre.flatten + nzCount isZ p ∧
      o = ⟨pre.flatten ++ (p ++ [v]) ++ post.flatten, s⟩ := by
  rcases fault_spec isZ P k with ⟨-, -, hd⟩ | ⟨pre, p, v, s, post, hP, hv, hk, -, hd⟩
  · rw [hd] at h; cases h
  · exact ⟨pre, p, v, s, post, hP, hv, hk, Option.some.inj (h.symm.trans hd)⟩

theorem dropFault_some_iff (isZ : α → Bool) (perArch : List (List α)) (k : Nat) :
    (dropFault isZ perArch k).isSome ↔ k < ((perArch.flatten).filter (fun v => !isZ v)).length := by
  show _ ↔ k < nzCount isZ perArch.flatten
  rcases fault_spec isZ perArch k with ⟨hle, -, hd⟩ | ⟨pre, p, v, s, post, rfl, hv, rfl, -, hd⟩
  · rw [hd]; simpa using hle
  · rw [hd]; simp [nzCount_append, nzCount_cons, hv]

/-- Every owned value is either dropped or leaked, exactly once (as multisets). -/
theorem dropFault_partition (isZ : α → Bool) (perArch : List (List α)) (k : Nat)
    (o : FaultOutcome α) (h : dropFault isZ perArch k = some o) :
    (o.dropped ++ o.leaked).Perm perArch.flatten := by
  obtain ⟨pre, p, v, s, post, rfl, -, -, rfl⟩ := dropFault_eq_some h
  simp only [List.flatten_append, List.flatten_cons, List.append_assoc, List.cons_append,
    List.nil_append]
  exact .append_left _ (.append_left _ (.cons _ List.perm_append_comm))

theorem nodup_of_perm_append {l₁ l₂ l : List α} (hp : (l₁ ++ l₂).Perm l) (hnd : l.Nodup) :
    l₁.Nodup ∧ l₂.Nodup ∧ ∀ x ∈ l₁, x ∉ l₂ := by
  have h := List.nodup_append.1 (hp.nodup_iff.2 hnd)
  exact ⟨h.1, h.2.1, fun x hx hy => h.2.2 x hx x hy rfl⟩

/-- If no value is owned twice, nothing is dropped twice, nothing is leaked twice, and
nothing is both dropped and leaked. -/
theorem dropFault_nodup (isZ : α → Bool) (perArch : List (List α)) (k : Nat)
    (o : FaultOutcome α) (h : dropFault isZ perArch k = some o) (hnd : perArch.flatten.Nodup) :
    o.dropped.Nodup ∧ o.leaked.Nodup ∧ ∀ x, x ∈ o.dropped → x ∈ o.leaked → False :=
  nodup_of_perm_append (dropFault_partition isZ perArch k o h) hnd

theorem dropFault_mem (isZ : α → Bool) (perArch : List (List α)) (k : Nat)
    (o : FaultOutcome α) (h : dropFault isZ perArch k = some o) (x : α) :
    x ∈ perArch.flatten ↔ x ∈ o.dropped ∨ x ∈ o.leaked := by
  rw [← (dropFault_partition isZ perArch k o h).mem_iff, List.mem_append]

/-- The leak is a suffix of exactly one archetype `n`, starting right after the faulting
value `v` (non-zero-sized, the `k`-th one overall, counted over the archetypes before `n` and
the part `p` of archetype `n` in front of it); `dropped` is, in order: all archetypes before `n`,
`p ++ [v]`, all archetypes after `n`. -/
theorem dropFault_leak_one_archetype (isZ : α → Bool) (perArch : List (List α)) (k : Nat)
    (o : FaultOutcome α) (h : dropFault isZ perArch k = some o) :
    ∃ n a pre, perArch[n]? = some a ∧ a = pre ++ o.leaked ∧
      ((perArch.take n).flatten.filter (fun v => !isZ v)).length ≤ k ∧
      (pre.filter (fun v => !isZ v)).length =
        (k - ((perArch.take n).flatten.filter (fun v => !isZ v)).length) + 1 ∧
      (∃ p v, pre = p ++ [v] ∧ isZ v = false) ∧
      o.dropped = (perArch.take n).flatten ++ pre ++ (perArch.drop (n + 1)).flatten := by
  obtain ⟨pre, p, v, s, post, rfl, hv, rfl, rfl⟩ := dropFault_eq_some h
  exact ⟨pre.length, p ++ v :: s, p ++ [v], by simp, by simp, by simp [nzCount],
    by simp [nzCount, hv], ⟨p, v, rfl, hv⟩, by simp⟩

/-- Every archetype other than the faulting one is completely contained in `dropped`
(`n` is the index of `dropFault_leak_one_archetype`: the archetype of which `leaked` is a suffix). -/
theorem dropFault_other_archetypes_dropped (isZ : α → Bool) (perArch : List (List α)) (k : Nat)
    (o : FaultOutcome α) (h : dropFault isZ perArch k = some o) :
    ∃ n a, perArch[n]? = some a ∧ o.leaked <:+ a ∧
      ∀ (m : Nat) (b : List α), m ≠ n → perArch[m]? = some b → ∀ x, x ∈ b → x ∈ o.dropped := by
  obtain ⟨pre, p, v, s, post, rfl, -, -, rfl⟩ := dropFault_eq_some h
  refine ⟨pre.length, p ++ v :: s, by simp, ⟨p ++ [v], by simp⟩, fun m b hm hb x hx => ?_⟩
  -- an archetype at another index is one of `pre` or of `post`
  have hb' := List.mem_eraseIdx_iff_getElem?.2 ⟨m, hm, hb⟩
  rw [List.eraseIdx_append_of_length_le (Nat.le_refl _), Nat.sub_self, List.eraseIdx_cons_zero,
    List.mem_append] at hb'
  simp only [List.mem_append, List.mem_flatten]
  exact hb'.elim (fun hb' => .inl (.inl ⟨b, hb', hx⟩)) (fun hb' => .inr ⟨b, hb', hx⟩)

theorem World.drop_go_ok_eq (l : List (Storage α)) (acc vals : List α) (u : Unit)
    (h : World.drop.go l acc = .ok vals u) :
    vals = acc ++ (l.map (fun s => s.cols.flatMap (fun c => c.take s.len))).flatten := by
  induction l generalizing acc with
  | nil => cases h; simp
  | cons s l ih =>
    rw [World.drop.go, dropStorage] at h
    by_cases hu : s.cols.any (fun c => c.length < s.len)
    · rw [if_pos hu] at h; cases h
    · rw [if_neg hu] at h
      rw [ih _ h, List.map_cons, List.flatten_cons, List.append_assoc]

/-- The list of values `World.drop` reports (when it does not hit UB) is exactly the flattening
of `World.dropPerArch`, i.e. `dropFault`'s input covers precisely the values owned by the world
and `nd` of the driver is `nzCount` of that flattening. -/
theorem World.drop_ok_eq_flatten (w : World α) (vals : List α) (u : Unit)
    (h : w.drop = .ok vals u) : vals = w.dropPerArch.flatten := by
  have := World.drop_go_ok_eq w.archs [] vals u h
  simpa [World.dropPerArch] using this

/-- `cloneFault`'s input flattens to the driver's `cloneOrder`. -/
theorem World.clonePerArch_flatten (w : World α) :
    w.clonePerArch.flatten =
      w.archs.flatMap (fun s =>
        (List.range s.len).flatMap (fun i => s.cols.filterMap (fun c => c[i]?))) := by
  simp [World.clonePerArch, List.flatMap_def]

/-- `dropFault`'s input flattens to the driver's `worldVals`. -/
theorem World.dropPerArch_flatten (w : World α) :
    w.dropPerArch.flatten =
      w.archs.flatMap (fun s => s.cols.flatMap (fun c => c.take s.len)) := by
  simp [World.dropPerArch, List.flatMap_def]

section Examples

private def isZ0 : Nat → Bool := fun v => v == 0
/-- archetype 0: `1 2`; archetype 1: `3 0 4 5` (zero-sized value in the middle); archetype 2: `0 6`;
plus an empty archetype in front of the last one. -/
private def ex : List (List Nat) := [[1, 2], [3, 0, 4, 5], [], [0, 6]]

-- clone: fault at the 3rd (0-based) non-zst value = `4`: archetype 0 dropped, `3 0` leaked
example : cloneFault isZ0 ex 3 = some ⟨[1, 2], [3, 0]⟩ := by decide +kernel
-- clone: fault at the first value of an archetype: nothing leaked
example : cloneFault isZ0 ex 2 = some ⟨[1, 2], []⟩ := by decide +kernel
-- clone: fault at the last value, behind an empty archetype and a leading zero-sized value
example : cloneFault isZ0 ex 5 = some ⟨[1, 2, 3, 0, 4, 5], [0]⟩ := by decide +kernel
example : cloneFault isZ0 ex 0 = some ⟨[], []⟩ := by decide +kernel
example : cloneFault isZ0 ex 6 = none := by decide +kernel
example : cloneFaultCounts isZ0 ex 3 0 0 = (2, 0, 1, 1) := by decide +kernel
example : cloneFaultCounts isZ0 ex 5 0 0 = (5, 1, 0, 1) := by decide +kernel
example : (cloneFault isZ0 ex 3).isSome ∧ 3 < ((ex.flatten).filter (fun v => !isZ0 v)).length := by
  decide +kernel

-- drop: fault at `3` (k = 2): `0 4 5` leaked (zero-sized one included), everything else dropped
example : dropFault isZ0 ex 2 = some ⟨[1, 2, 3, 0, 6], [0, 4, 5]⟩ := by decide +kernel
-- drop: fault at `4` (k = 3): the zero-sized value before it is dropped
example : dropFault isZ0 ex 3 = some ⟨[1, 2, 3, 0, 4, 0, 6], [5]⟩ := by decide +kernel
-- drop: fault at the last value of an archetype: nothing leaked
example : dropFault isZ0 ex 4 = some ⟨[1, 2, 3, 0, 4, 5, 0, 6], []⟩ := by decide +kernel
example : dropFault isZ0 ex 1 = some ⟨[1, 2, 3, 0, 4, 5, 0, 6], []⟩ := by decide +kernel
example : dropFault isZ0 ex 6 = none := by decide +kernel
example : dropFaultDriver isZ0 ex 2 false [] 0 0 = ([1, 2, 3, 0, 6], 2, 1) := by decide +kernel
example : dropFaultDriver isZ0 ex 3 false [] 0 0 = ([1, 2, 3, 0, 4, 0, 6], 1, 0) := by decide +kernel
-- the hypotheses of `dropFault_nodup` are satisfiable together with a fault (distinct values, one zst)
example : (dropFault isZ0 [[1, 2], [3, 0, 4, 5], [6]] 2).isSome ∧
    ([[1, 2], [3, 0, 4, 5], [6]] : List (List Nat)).flatten.Nodup := by decide +kernel
-- trailing zero-sized values of the faulting archetype are leaked too
example : dropFault isZ0 [[1, 0], [2]] 0 = some ⟨[1, 2], [0]⟩ := by decide +kernel
-- an archetype consisting of zero-sized values only can never be the faulting one
example : dropFault isZ0 [[0, 0], [1]] 0 = some ⟨[0, 0, 1], []⟩ := by decide +kernel
example : cloneFault isZ0 [[0, 0], [1]] 0 = some ⟨[0, 0], []⟩ := by decide +kernel

end Examples

end Gecs

#print axioms Gecs.cloneFault_counts
#print axioms Gecs.cloneFault_counts_none
#print axioms Gecs.dropFault_driver
#print axioms Gecs.dropFault_driver_none
#print axioms Gecs.cloneFault_some_iff
#print axioms Gecs.fault_spec
#print axioms Gecs.cloneFault_prefix
#print axioms Gecs.cloneFault_made_eq_take
#print axioms Gecs.cloneFault_dropped_whole_archetypes
#print axioms Gecs.cloneFault_leaked_then_fault
#print axioms Gecs.dropFault_some_iff
#print axioms Gecs.dropFault_partition
#print axioms Gecs.dropFault_nodup
#print axioms Gecs.dropFault_mem
#print axioms Gecs.dropFault_leak_one_archetype
#print axioms Gecs.dropFault_other_archetypes_dropped
#print axioms Gecs.World.drop_ok_eq_flatten
#print axioms Gecs.World.clonePerArch_flatten
#print axioms Gecs.World.dropPerArch_flatten
