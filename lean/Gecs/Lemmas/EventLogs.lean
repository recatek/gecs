/-
C17 (storage half) — the event logs of one storage.

`created` / `destroyed` are, with the `events` feature, exactly the handles created / removed
by the labelled steps since the last `clear_events`, in order; without the feature they are
never written.  `clear_events` touches nothing but the two logs.

A refused operation is not an `LStep` (header of Values.lean): no label, hence no log entry.
-/
import Gecs.Lemmas.Values

namespace Gecs
variable {α : Type}

def logCStep (acc : List Ent) : Lbl α → List Ent
  | .created e _ => acc ++ [e]
  | .clear => []
  | _ => acc

def logDStep (acc : List Ent) : Lbl α → List Ent
  | .destroyed t _ => acc ++ [t]
  | .clear => []
  | _ => acc

def logC (init : List Ent) (L : List (Lbl α)) : List Ent := L.foldl logCStep init

def logD (init : List Ent) (L : List (Lbl α)) : List Ent := L.foldl logDStep init

def Lbl.isClear : Lbl α → Bool
  | .clear => true
  | _ => false

def hasClear (L : List (Lbl α)) : Bool := L.any Lbl.isClear

/-- The handles created by `L`, in order. -/
def createdOf (L : List (Lbl α)) : List Ent :=
  L.filterMap (fun l => match l with | .created e _ => some e | _ => none)

/-- The handles destroyed by `L`, in order. -/
def destroyedOf (L : List (Lbl α)) : List Ent :=
  L.filterMap (fun l => match l with | .destroyed t _ => some t | _ => none)

theorem lstep_logs {cfg : Cfg} {s s' : Storage α} {l : Lbl α} (h : Inv cfg s)
    (st : LStep cfg s l s') :
    s'.created = (if cfg.events then logCStep s.created l
        else if l.isClear then [] else s.created)
    ∧ s'.destroyed = (if cfg.events then logDStep s.destroyed l
        else if l.isClear then [] else s.destroyed) := by
  cases l with
  | created e row =>
    have c := lstep_created h st
    rw [c.created, c.destroyed]; cases cfg.events <;> exact ⟨rfl, rfl⟩
  | destroyed t row =>
    obtain ⟨_, r⟩ := lstep_destroyed h st
    rw [r.created, r.destroyed]; cases cfg.events <;> exact ⟨rfl, rfl⟩
  | write d c x => cases st; cases cfg.events <;> exact ⟨rfl, rfl⟩
  | clear => cases st; cases cfg.events <;> exact ⟨rfl, rfl⟩
  | clone cl => cases st; cases cfg.events <;> exact ⟨rfl, rfl⟩

theorem lreach_logs_on {cfg : Cfg} {s s' : Storage α} {L : List (Lbl α)}
    (hev : cfg.events = true) (r : LReach cfg s L s') :
    s'.created = logC s.created L ∧ s'.destroyed = logD s.destroyed L := by
  induction r with
  | refl => exact ⟨rfl, rfl⟩
  | step r hi st ih =>
    obtain ⟨h1, h2⟩ := lstep_logs hi st
    rw [hev, if_pos rfl] at h1 h2
    unfold logC logD
    rw [List.foldl_append, List.foldl_append]
    exact ⟨by rw [h1, ih.1]; rfl, by rw [h2, ih.2]; rfl⟩

/-- Without the `events` feature nothing is ever logged: the logs keep their initial contents
until the first `clear_events` and are empty afterwards. -/
theorem lreach_logs_off {cfg : Cfg} {s s' : Storage α} {L : List (Lbl α)}
    (hev : cfg.events = false) (r : LReach cfg s L s') :
    s'.created = (if hasClear L then [] else s.created)
    ∧ s'.destroyed = (if hasClear L then [] else s.destroyed) := by
  induction r with
  | refl => exact ⟨rfl, rfl⟩
  | @step s₁ s₂ L₁ l r hi st ih =>
    obtain ⟨h1, h2⟩ := lstep_logs hi st
    rw [hev, if_neg Bool.false_ne_true] at h1 h2
    have hc : hasClear (L₁ ++ [l]) = (hasClear L₁ || l.isClear) := by simp [hasClear]
    rw [hc, h1, h2, ih.1, ih.2]
    cases l.isClear <;> cases hasClear L₁ <;> exact ⟨rfl, rfl⟩

theorem lreach_logs_off_noclear {cfg : Cfg} {s s' : Storage α} {L : List (Lbl α)}
    (hev : cfg.events = false) (hnc : hasClear L = false) (r : LReach cfg s L s') :
    s'.created = s.created ∧ s'.destroyed = s.destroyed := by
  have := lreach_logs_off hev r
  rw [hnc] at this; exact this

theorem lreach_logs_off_empty {cfg : Cfg} {s s' : Storage α} {L : List (Lbl α)}
    (hev : cfg.events = false) (hc : s.created = []) (hd : s.destroyed = [])
    (r : LReach cfg s L s') : s'.created = [] ∧ s'.destroyed = [] := by
  have := lreach_logs_off hev r
  rw [hc, hd] at this
  simpa using this

/-- A log that every label except `clear` extends by `sel l` is, on a clear-free list, the
initial log followed by the selected handles. -/
theorem foldl_noclear {step : List Ent → Lbl α → List Ent} {sel : Lbl α → Option Ent}
    (hstep : ∀ acc l, l.isClear = false → step acc l = acc ++ (sel l).toList)
    (init : List Ent) (L : List (Lbl α)) (hnc : hasClear L = false) :
    L.foldl step init = init ++ L.filterMap sel := by
  induction L generalizing init with
  | nil => simp
  | cons l L ih =>
    obtain ⟨h1, h2⟩ : l.isClear = false ∧ hasClear L = false := by simpa [hasClear] using hnc
    rw [List.foldl_cons, ih _ h2, hstep _ _ h1, List.filterMap_cons, List.append_assoc]
    cases sel l <;> rfl

theorem logC_noclear (init : List Ent) (L : List (Lbl α)) (hnc : hasClear L = false) :
    logC init L = init ++ createdOf L :=
  foldl_noclear (init := init) (hnc := hnc) fun acc l h => by
    cases l with
    | clear => cases h
    | _ => simp [logCStep]

theorem logD_noclear (init : List Ent) (L : List (Lbl α)) (hnc : hasClear L = false) :
    logD init L = init ++ destroyedOf L :=
  foldl_noclear (init := init) (hnc := hnc) fun acc l h => by
    cases l with
    | clear => cases h
    | _ => simp [logDStep]

theorem logC_after_clear (init : List Ent) (L₁ L₂ : List (Lbl α)) :
    logC init (L₁ ++ [.clear] ++ L₂) = logC [] L₂ := by
  unfold logC
  rw [List.foldl_append, List.foldl_append]; rfl

theorem logD_after_clear (init : List Ent) (L₁ L₂ : List (Lbl α)) :
    logD init (L₁ ++ [.clear] ++ L₂) = logD [] L₂ := by
  unfold logD
  rw [List.foldl_append, List.foldl_append]; rfl

/-- C17, storage half: after a `clear_events` followed by clear-free labels `L₂`, the created
log is exactly the handles created by `L₂`, in order, and the destroyed log exactly the handles
destroyed by `L₂`, in order — whatever happened before the clear. -/
theorem logs_since_clear {cfg : Cfg} {s s' : Storage α} {L₁ L₂ : List (Lbl α)}
    (hev : cfg.events = true) (hnc : hasClear L₂ = false)
    (r : LReach cfg s (L₁ ++ [.clear] ++ L₂) s') :
    s'.created = createdOf L₂ ∧ s'.destroyed = destroyedOf L₂ := by
  obtain ⟨h1, h2⟩ := lreach_logs_on hev r
  rw [h1, h2, logC_after_clear, logD_after_clear, logC_noclear _ _ hnc, logD_noclear _ _ hnc]
  exact ⟨rfl, rfl⟩

theorem logs_noclear {cfg : Cfg} {s s' : Storage α} {L : List (Lbl α)}
    (hev : cfg.events = true) (hnc : hasClear L = false) (r : LReach cfg s L s') :
    s'.created = s.created ++ createdOf L ∧ s'.destroyed = s.destroyed ++ destroyedOf L := by
  obtain ⟨h1, h2⟩ := lreach_logs_on hev r
  rw [h1, h2, logC_noclear _ _ hnc, logD_noclear _ _ hnc]
  exact ⟨rfl, rfl⟩

/-! ## Non-vacuity on the path of `Values.lean` (`cfgEx` has `events = true`) -/
namespace StorageEx

example : (clearEvents pathEx3).created = [] ∧ (clearEvents pathEx3).destroyed = [] := by
  have := lreach_logs_on (cfg := cfgEx) rfl pathEx_reach
  exact ⟨by rw [this.1]; decide, by rw [this.2]; decide⟩

example : pathEx3.created = [⟨1, 2⟩] ∧ pathEx3.destroyed = [⟨0, 1⟩] := by
  have := logs_noclear (cfg := cfgEx) rfl (by decide) pathEx_reach3
  exact this

/-- After the clear of `pathExL`, one more creation (the freed slot 0, next generation). -/
def pathEx5 : Storage Nat :=
  ⟨3, 3, 3, .freeEnd, [⟨.data 2, 2⟩, ⟨.data 0, 2⟩, ⟨.data 1, 1⟩], [⟨1, 2⟩, ⟨2, 1⟩, ⟨0, 2⟩],
    [[13, 12, 14], [77, 22, 24]], [⟨0, 2⟩], []⟩

theorem pathEx_step5 : LStep cfgEx (clearEvents pathEx3) (.created ⟨0, 2⟩ [14, 24]) pathEx5 :=
  .pushWithin _ _ _ _ rfl

theorem pathEx_reach5 : LReach cfgEx holeEx
    ([.created ⟨1, 2⟩ [13, 23], .write 2 1 77, .destroyed ⟨0, 1⟩ [10, 20]] ++ [.clear]
      ++ [.created ⟨0, 2⟩ [14, 24]]) pathEx5 :=
  .step pathEx_reach (lockstep holeEx_inv pathEx_reach) pathEx_step5

example : pathEx5.created = [⟨0, 2⟩] ∧ pathEx5.destroyed = [] :=
  logs_since_clear (cfg := cfgEx) rfl (by decide) pathEx_reach5

/-- The same storage under a configuration without the `events` feature. -/
def cfgNoEv : Cfg := ⟨8, 5, false, false, true⟩

theorem holeEx_inv_noEv : Inv cfgNoEv holeEx := { holeEx_inv with }

example : ∃ s', LReach cfgNoEv holeEx [.created ⟨1, 2⟩ [13, 23]] s'
    ∧ s'.created = [] ∧ s'.destroyed = [] := by
  have st : LStep cfgNoEv holeEx (.created ⟨1, 2⟩ [13, 23]) { pathEx1 with created := [] } :=
    .pushWithin _ _ _ _ rfl
  have r := LReach.step (.refl _) holeEx_inv_noEv st
  exact ⟨_, r, lreach_logs_off_empty (cfg := cfgNoEv) rfl rfl rfl r⟩

end StorageEx
end Gecs

section
open Gecs
#print axioms lstep_logs
#print axioms lreach_logs_on
#print axioms lreach_logs_off
#print axioms lreach_logs_off_noclear
#print axioms lreach_logs_off_empty
#print axioms logC_noclear
#print axioms logD_noclear
#print axioms logs_since_clear
#print axioms logs_noclear
end
