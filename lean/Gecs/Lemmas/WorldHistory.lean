/-
Helpers for the world-history property files C01, C03, C08, C09.  A history is seen archetype by
archetype: the world after `run` is `WRel`-related to the initial world (`run_wrel`), hence every
archetype's storage is `SReach`-related to its initial storage (`run_reach`; in two halves
`run_split`), so that the path relations of `StoragePaths` (`Kept`, `Later`) hold between them.
The rest is what the property files need of single calls: where the handle of a stored entity, a
foreign id and an undeclared id are routed under `WInv` (distinct ids below `ID_RANGE`), what the
lookups answer to them, what a successful `destroy` / `create` did to the archetype's storage, and
that operations which do not remove from an archetype keep its version (`run_keeps_version`).
-/
import Gecs.Lemmas.StepRun
import Gecs.Lemmas.StoragePaths
import Gecs.Lemmas.Bits

namespace Gecs
variable {α : Type}

theorem run_reach {cfg : Cfg} {w w' : World α} {ops : List (Op α)} (hw : WInv cfg w)
    (ho : OpsOk cfg ops) (hs : OpsScoped w.sch ops)
    (hr : run cfg w ops = some w') {a : Nat} {s s' : Storage α}
    (g : w.archs[a]? = some s) (g' : w'.archs[a]? = some s') : SReach cfg s s' :=
  (run_wrel hw ho hs hr).reach a s s' g g'

theorem run_split {cfg : Cfg} {w₀ w₁ w₂ : World α} {ops₁ ops₂ : List (Op α)}
    (hw : WInv cfg w₀) (ho : OpsOk cfg (ops₁ ++ ops₂))
    (hs : OpsScoped w₀.sch (ops₁ ++ ops₂))
    (h₁ : run cfg w₀ ops₁ = some w₁) (h₂ : run cfg w₁ ops₂ = some w₂) :
    WRel cfg w₀ w₁ ∧ WRel cfg w₁ w₂ := by
  obtain ⟨v₁, v₂, g₁, g₂, _, r₁, r₂⟩ := run_prefix hw ho hs
  rw [h₁] at g₁; cases g₁
  rw [h₂] at g₂; cases g₂
  exact ⟨r₁, r₂⟩

theorem run_single_ok {cfg : Cfg} {w w' : World α} {op : Op α} (h : stepOp cfg w op = .ok w') :
    run cfg w [op] = some w' := by
  simp [run, h]

theorem run_single_panic {cfg : Cfg} {w w' : World α} {op : Op α} {m : String}
    (h : stepOp cfg w op = .panic m w') : run cfg w [op] = some w' := by
  simp [run, h]

theorem WInv.id_lt {cfg : Cfg} {w : World α} (hw : WInv cfg w) {a id : Nat}
    (h : w.ids[a]? = some id) : id < ID_RANGE :=
  hw.idsLt id (List.mem_of_getElem? h)

theorem WInv.ids_ne {cfg : Cfg} {w : World α} (hw : WInv cfg w) {a b ia ib : Nat} (hab : a ≠ b)
    (ha : w.ids[a]? = some ia) (hb : w.ids[b]? = some ib) : ia ≠ ib := by
  intro heq
  subst heq
  have hlt := (List.getElem?_eq_some_iff.mp ha).1
  have := (List.getElem?_inj hlt hw.idsNodup).1 (ha.trans hb.symm)
  exact hab this

theorem route_unknown_id {cfg : Cfg} {ids : List Nat} {u : KeyUse} (ht : u.typed = false)
    (hid : u.h.key.archId ∉ ids) :
    u.route cfg ids = if u.worldLevel then .panic "invalid entity type" else .absent := by
  cases hwl : u.worldLevel
  · rw [route_dynamic_arch ht hwl, if_neg (Key.archId_ne_getD hid _)]; rfl
  · have hsel := (selectArch_none_iff ids u.h.key.archId).mpr hid
    rw [route_dynamic_world ht hwl, hsel]; rfl

/-- All four uses of the handle `mkKey i id v` of archetype `a` (`ids[a] = id`) — typed or
dynamic, at archetype level (on `a`) or at world level, debug or release build — are routed
to archetype `a` with exactly these words. -/
theorem route_own_handle {cfg : Cfg} {ids : List Nat} (hn : ids.Nodup) {a id : Nat}
    (hid : ids[a]? = some id) (hlt : id < ID_RANGE) (i v : Nat) (kind : KeyKind)
    (worldLevel typed : Bool) (at_ : Option Nat) (hat : at_ = none ∨ at_ = some a) :
    KeyUse.route cfg ids ⟨worldLevel, typed, ⟨kind, a, mkKey i id v⟩, at_⟩
      = .arch a (mkKey i id v) := by
  have hb : at_.getD a = a := by rcases hat with rfl | rfl <;> rfl
  have harch : (mkKey i id v).archId = id := Key.archId_mkKey v hlt
  have hgd := getD_of_getElem? hid
  cases typed
  · cases worldLevel
    · rw [route_dynamic_arch rfl rfl]
      simp only [hb, harch, hgd, if_true]
    · have hsel : selectArch ids (mkKey i id v).archId = some a := by
        rw [harch]; exact (selectArch_spec hn id a).mpr hid
      rw [route_dynamic_world rfl rfl]
      simp only [hsel]
  · rw [route_typed rfl (by intro _; simp only [hb, harch, hgd])]
    simp only [hb]

theorem route_foreign_absent {cfg : Cfg} {ids : List Nat} (hn : ids.Nodup) {a b id : Nat}
    (hid : ids[a]? = some id) (hlt : id < ID_RANGE) (hab : b ≠ a) (i v : Nat) (kind : KeyKind)
    (a' : Nat) :
    KeyUse.route cfg ids ⟨false, false, ⟨kind, a', mkKey i id v⟩, some b⟩ = .absent := by
  rw [route_dynamic_arch rfl rfl, if_neg]
  show ¬ (mkKey i id v).archId = ids.getD b ID_RANGE
  rw [Key.archId_mkKey v hlt]
  intro heq
  have hb : ids[b]? = some id := getElem?_of_getD_lt heq.symm hlt
  have hblt := (List.getElem?_eq_some_iff.mp hb).1
  exact hab ((List.getElem?_inj hblt hn).1 (hb.trans hid.symm))

theorem toDirect_ent_of_alive {cfg : Cfg} {w : World α} (hw : WInv cfg w) {a d : Nat} {k : Key}
    {s : Storage α} (g : w.archs[a]? = some s) (hd : s.ents[d]? = some k.toEnt) :
    w.toDirect cfg (.arch a k) false
      = .ok (some (mkKey d (w.ids.getD a ID_RANGE) s.version)) w :=
  (toDirect_ent_iff hw a k _ w).mpr ⟨rfl, s, d, g, hd, rfl⟩

theorem mkKey_toEnt {id : Nat} (hlt : id < ID_RANGE) (e : Ent) :
    (mkKey e.slot id e.ver).toEnt = e := by
  show (⟨(mkKey e.slot id e.ver).index, (mkKey e.slot id e.ver).ver⟩ : Ent) = e
  rw [Key.index_mkKey e.ver hlt, Key.ver_mkKey]

theorem toDirect_own_handle {cfg : Cfg} {w : World α} (hw : WInv cfg w) {a d id : Nat}
    {s : Storage α} {e : Ent} (g : w.archs[a]? = some s) (hid : w.ids[a]? = some id)
    (he : s.ents[d]? = some e) :
    w.toDirect cfg (.arch a (mkKey e.slot id e.ver)) false
      = .ok (some (mkKey d id s.version)) w := by
  rw [toDirect_ent_of_alive hw g (by rw [mkKey_toEnt (hw.id_lt hid)]; exact he),
    getD_of_getElem? hid]

theorem fetch_ent_of_alive {cfg : Cfg} {w : World α} (hw : WInv cfg w) {a d : Nat} {k : Key}
    {s : Storage α} (g : w.archs[a]? = some s) (hd : s.ents[d]? = some k.toEnt) :
    ∃ row, readRow s d = some row
      ∧ w.fetch cfg (.arch a k) false = .ok (some (d, k.toEnt, row)) w :=
  have hrow := readRow_of_lt (hw.get g) ((hw.get g).ents_lt hd)
  ⟨_, hrow, (fetch_ent_iff hw a k d _ _ w).mpr ⟨rfl, rfl, s, g, hd, hrow⟩⟩

theorem rejected_of_not_alive {cfg : Cfg} {w : World α} (hw : WInv cfg w) {a : Nat}
    {s : Storage α} (g : w.archs[a]? = some s) {k : Key} (hn : k.toEnt ∉ s.ents) :
    (¬ ∃ d, w.contains cfg (.arch a k) false = .ok (some d) w)
    ∧ (¬ ∃ r w', w.fetch cfg (.arch a k) false = .ok (some r) w')
    ∧ (¬ ∃ k' w', w.toDirect cfg (.arch a k) false = .ok (some k') w') := by
  have key : ∀ (s' : Storage α) (d : Nat),
      w.archs[a]? = some s' → s'.ents[d]? = some k.toEnt → False := by
    intro s' d g' hd
    rw [g] at g'; cases g'
    exact hn (List.mem_of_getElem? hd)
  refine ⟨?_, ?_, ?_⟩
  · rintro ⟨d, hd⟩
    obtain ⟨s', g', hd'⟩ := (contains_ent_iff hw a k d).mp hd
    exact key s' d g' hd'
  · rintro ⟨⟨d, e, row⟩, w', hf⟩
    obtain ⟨_, _, s', g', hd', _⟩ := (fetch_ent_iff hw a k d e row w').mp hf
    exact key s' d g' hd'
  · rintro ⟨k', w', ht⟩
    obtain ⟨_, s', d, g', hd', _⟩ := (toDirect_ent_iff hw a k k' w').mp ht
    exact key s' d g' hd'

theorem direct_stale_none {cfg : Cfg} {w : World α} {a : Nat} {k : Key} {s : Storage α}
    (g : w.archs[a]? = some s) (hne : k.ver ≠ s.version) :
    w.contains cfg (.arch a k) true = .ok none w
    ∧ w.toDirect cfg (.arch a k) true = .ok none w
    ∧ w.fetch cfg (.arch a k) true = .ok none w := by
  have hr := resolveDirect_of_ver_ne cfg s k.index hne
  have h1 : storageResolve cfg s true k = .ok none s := by
    simp [storageResolve, resolveForDirect, hr]
  exact ⟨liftArch_ok_same g h1,
    liftArch_ok_same g (by simp [storageToDirect, toDirectDirect, hr]),
    liftArch_ok_same g (by simp [storageFetch, h1])⟩

theorem destroy_ent_ok {cfg : Cfg} {w w' : World α} (hw : WInv cfg w) {a : Nat} {k : Key}
    {row : List α} (h : w.destroy cfg (.arch a k) false = .ok (some row) w') :
    ∃ s s' d, w.archs[a]? = some s ∧ w' = w.setArch a s' ∧ w'.archs[a]? = some s'
      ∧ Removed cfg s d k.toEnt row s' := by
  obtain ⟨s, s', g, hde, rfl, g'⟩ := liftArch_ok_inv h
  obtain ⟨d, r⟩ := Removed.of_destroyEnt (hw.get g) hde
  exact ⟨s, s', d, g, rfl, g', r⟩

theorem create_ok {cfg : Cfg} {w w' : World α} {g : Nat → Nat} {a : Nat} {row : List α} {e : Ent}
    (h : w.create cfg g a row = .ok e w') :
    ∃ s s', w.archs[a]? = some s ∧ push cfg g s row = .ok e s' ∧ w' = w.setArch a s'
      ∧ w'.archs[a]? = some s' :=
  liftArch_ok_inv h

theorem createWithin_ok {cfg : Cfg} {w w' : World α} {a : Nat} {row : List α} {e : Ent}
    (h : w.createWithin cfg a row = .ok (some e) w') :
    ∃ s s', w.archs[a]? = some s ∧ pushWithin cfg s row = .ok (some e) s'
      ∧ w' = w.setArch a s' ∧ w'.archs[a]? = some s' :=
  liftArch_ok_inv h

/-- Operations that never remove an entity from archetype `a`: creations (in any archetype,
growth included), component writes through any key, `clear_events`, clone, and `destroy`
calls that are not routed to `a` (refused, panicking, or routed to another archetype).
(`ecs_iter!` and `ecs_find!` do not remove either, but are not covered by `run_keeps_version`.) -/
def Op.NoRemovalIn (cfg : Cfg) (ids : List Nat) (a : Nat) : Op α → Prop
  | .create _ _ _ => True
  | .createWithin _ _ => True
  | .write _ _ _ => True
  | .clearEvents _ => True
  | .cloneSwitch _ => True
  | .destroy u => ∀ k, u.route cfg ids ≠ .arch a k
  | _ => False

theorem noRemoval_not_destroyed {cfg : Cfg} {ids : List Nat} {a : Nat} {op : Op α}
    (hn : op.NoRemovalIn cfg ids a) {t : Ent} {row : List α}
    (hp : op.EmitsAt cfg ids a (.destroyed t row)) : False := by
  cases op with
  | destroy u => obtain ⟨k, hk⟩ := hp.2; exact hn k hk
  | iterDestroy => exact hn
  | iter => exact hn
  | find => exact hn
  | create => exact hp.1
  | createWithin => exact hp.1
  | write => exact hp.1
  | clearEvents => exact hp.1
  | cloneSwitch => exact hp.1

theorem emitsAt_keeps_version {cfg : Cfg} {ids : List Nat} {a : Nat} {op : Op α}
    (hn : op.NoRemovalIn cfg ids a) {s s' : Storage α} {l : Lbl α}
    (hi : Inv cfg s) (hl : LStep cfg s l s') (hp : op.EmitsAt cfg ids a l) :
    s'.version = s.version := by
  cases l with
  | created e row => exact (lstep_created hi hl).version
  | destroyed t row => exact (noRemoval_not_destroyed hn hp).elim
  | write => cases hl; rfl
  | clear => cases hl; rfl
  | clone => cases hl; rfl

theorem run_keeps_version {cfg : Cfg} (a : Nat) (ops : List (Op α))
    (w w' : World α) (hw : WInv cfg w) (ho : OpsOk cfg ops) (hs : OpsScoped w.sch ops)
    (hn : ∀ op ∈ ops, op.NoRemovalIn cfg w.ids a) (hr : run cfg w ops = some w')
    {s s' : Storage α} (g : w.archs[a]? = some s) (g' : w'.archs[a]? = some s') :
    s'.version = s.version :=
  run_lift (R := fun b s s' => b = a → s'.version = s.version) (fun _ _ _ => rfl)
    (fun h1 h2 hb => (h2 hb).trans (h1 hb)) ops w w' hw ho hs rfl
    (fun op hop _ _ _ _ hi hl hp hb => emitsAt_keeps_version (hn op hop) hi hl (hb ▸ hp))
    hr a s s' g g' rfl

end Gecs

section
open Gecs
#print axioms run_reach
#print axioms run_split
#print axioms route_typed_arch
#print axioms route_dynamic_to
#print axioms route_unknown_id
#print axioms route_own_handle
#print axioms route_foreign_absent
#print axioms toDirect_ent_of_alive
#print axioms toDirect_own_handle
#print axioms fetch_ent_of_alive
#print axioms direct_stale_none
#print axioms destroy_ent_ok
#print axioms create_ok
#print axioms createWithin_ok
#print axioms run_keeps_version
end
