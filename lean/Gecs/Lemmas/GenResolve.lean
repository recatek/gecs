/-
Tie of the guard chains TRANSLATED from `StorageN::resolve_entity` / `resolve_direct`
(Gecs/Gen/Steps.lean: `resolveEntitySteps`, `resolveDirectSteps`) to the model's
`resolveEntity` / `resolveDirect` (Model/Storage.lean): running the extracted statements in
source order gives the very same outcome — answer, debug-assertion panic or `ub` — for EVERY
storage state with `len ≤ capacity` and EVERY handle, forged ones included.
-/
import Gecs.Gen.Steps

namespace Gecs

variable {α : Type}

/-! Symbolic execution.  The two interpreters are stated for an environment GIVEN BY ITS FIELDS: `simp`
then steps through a list only while it knows the environment, and leaves the rest of the list folded
behind the first `if`/`match` it cannot decide; the proof splits on that scrutinee and goes on from
there instead of running the list from its head in every case. -/

theorem runRE_cons {cfg : Cfg} {s : Storage α} {e : Ent} {st : REStep} {rest : List REStep}
    {a b : Option Nat} {c : Bool} {sl : Option Slot} {dn : Option Nat} :
    runRE cfg s e (st :: rest) ⟨a, b, c, sl, dn⟩ =
      match restep cfg s e ⟨a, b, c, sl, dn⟩ st with
      | .cont env' => runRE cfg s e rest env'
      | .ret r => .ok r s
      | .panic m => .panic m s
      | .ub m => .ub m := rfl

theorem runRD_cons {cfg : Cfg} {s : Storage α} {d v : Nat} {st : RDStep} {rest : List RDStep}
    {a b : Option Nat} {c : Bool} {l : Option Ent} {si : Option Nat} :
    runRD cfg s d v (st :: rest) ⟨a, b, c, l, si⟩ =
      match rdstep cfg s d v ⟨a, b, c, l, si⟩ st with
      | .cont env' => runRD cfg s d v rest env'
      | .ret r => .ok r s
      | .panic m => .panic m s
      | .ub m => .ub m := rfl

theorem gen_steps_resolve_entity (cfg : Cfg) (s : Storage α) (e : Ent) (hle : s.len ≤ s.capacity) :
    execResolveEntity cfg Gen.resolveEntitySteps s e = resolveEntity cfg s e := by
  unfold execResolveEntity resolveEntity Gen.resolveEntitySteps
  have hnl : ¬ (cfg.debug = true ∧ ¬ s.len ≤ s.capacity) := fun h => h.2 hle
  by_cases h0 : s.len = 0
  · simp [runRE_cons, restep, h0]
  by_cases hcap : e.slot ≥ s.capacity
  · cases hdbg : cfg.debug <;> simp [runRE_cons, restep, hle, h0, hcap, hdbg]
  have hlt : e.slot < s.capacity := Nat.lt_of_not_le hcap
  simp only [runRE_cons, restep, hnl, h0, hcap, hlt, if_false, not_true_eq_false, and_false]
  cases hsl : s.slots[e.slot]? with
  | none => rfl
  | some sl =>
    obtain ⟨idx, ver⟩ := sl
    simp only [runRE_cons, restep]
    by_cases hst : (decide (ver ≠ e.ver) || idx.isFree) = true
    · simp only [hst, if_true]
    simp only [runRE_cons, restep, hst, Bool.false_eq_true, if_false]
    cases idx with
    | free n => rfl
    | freeEnd => rfl
    | data d =>
      simp only [runRE_cons, restep]
      cases hdbg : cfg.debug
      · simp [runRE_cons, restep]
      by_cases hd : d < s.len
      · cases hent : s.ents[d]? with
        | none => simp [hd]
        | some l => by_cases hl : l = e <;> simp [runRE_cons, restep, hd, hl]
      · simp [hd]

theorem gen_steps_resolve_direct (cfg : Cfg) (s : Storage α) (d v : Nat) (hle : s.len ≤ s.capacity) :
    execResolveDirect cfg Gen.resolveDirectSteps s d v = resolveDirect cfg s d v := by
  unfold execResolveDirect resolveDirect Gen.resolveDirectSteps
  have hnl : ¬ (cfg.debug = true ∧ ¬ s.len ≤ s.capacity) := fun h => h.2 hle
  by_cases h0 : s.len = 0
  · simp [runRD_cons, rdstep, h0]
  by_cases hv : v ≠ s.version
  · simp [runRD_cons, rdstep, hle, h0, hv]
  by_cases hd : d ≥ s.len
  · cases hdbg : cfg.debug <;> simp [runRD_cons, rdstep, hle, h0, hv, hd, hdbg]
  have hlt : d < s.len := Nat.lt_of_not_le hd
  simp only [runRD_cons, rdstep, hnl, h0, hv, hd, hlt, if_false, not_true_eq_false, and_false]
  cases hent : s.ents[d]? with
  | none => rfl
  | some l =>
    simp only [runRD_cons, rdstep]
    cases hdbg : cfg.debug
    · simp [runRD_cons, rdstep]
    by_cases hs : l.slot < s.capacity
    · cases hsl : s.slots[l.slot]? with
      | none => simp [hs]
      | some sl =>
        by_cases hm : sl.ver = l.ver ∧ sl.idx.isFree = false <;> simp [runRD_cons, rdstep, hs, hm]
    · simp [hs]

end Gecs
