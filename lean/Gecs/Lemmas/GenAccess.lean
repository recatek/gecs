/-
The accessor surface of `StorageN`, as extracted (Gen.accessors): every accessor has the shape
the model assumes, and read through those shapes the storage shows what `readRow` and the column
prefixes say.
-/
import Gecs.Gen.Steps

namespace Gecs

variable {α : Type}

/-- The shapes: wrappers delegate to the trait method of the SAME operation; `begin_borrow` and
`get_view_mut` are built at the resolved index; every slice accessor is bounded by `len` and reads
its own column; shared accessors are shared, mutable ones mutable; the `borrow_*` ones go
through the column's `RefCell`. -/
theorem gen_accessors_shapes :
    shapeOf Gen.accessors "destroy" = .delegate "resolve_destroy"
    ∧ shapeOf Gen.accessors "resolve" = .delegate "resolve_for"
    ∧ shapeOf Gen.accessors "to_direct" = .delegate "resolve_direct"
    ∧ shapeOf Gen.accessors "begin_borrow" = .borrowAtResolved
    ∧ shapeOf Gen.accessors "get_view_mut" = .viewAtResolved
    ∧ shapeOf Gen.accessors "get_all_slices_mut" = .allSlicesToLen
    ∧ shapeOf Gen.accessors "get_slice_entities" = .entitiesToLen
    ∧ shapeOf Gen.accessors "get_slice_~I" = .columnToLen false false
    ∧ shapeOf Gen.accessors "get_slice_mut_~I" = .columnToLen true false
    ∧ shapeOf Gen.accessors "borrow_slice_~I" = .columnToLen false true
    ∧ shapeOf Gen.accessors "borrow_slice_mut_~I" = .columnToLen true true := by
  simp only [shapeOf, Gen.accessors, List.find?, String.reduceBEq, Option.map, Option.getD, and_self]

/-- `get_view_mut`, as extracted, shows for a resolved index exactly the model's `readRow`
(the entity's own row); the handle `viewRead` pairs with the row is not compared.  `hl` is the
test `viewRead` makes and `readRow` does not. -/
theorem gen_access_view (s : Storage α) (d : Nat) (hl : s.ents.length = s.len) :
    (viewRead s d (shapeOf Gen.accessors "get_view_mut")).map (·.2) = readRow s d := by
  rw [gen_accessors_shapes.2.2.2.2.1]
  unfold viewRead readRow
  simp only [hl, and_true]
  by_cases h : d < s.len ∧ (s.cols.all fun c => c.length == s.len) = true
  · rw [if_pos h, if_pos h]; rfl
  · rw [if_neg h, if_neg h]; rfl

/-- Every per-column slice accessor shows the `len`-prefix of ITS column; `get_slice_entities`
the `len`-prefix of the handles. -/
theorem gen_access_slices (s : Storage α) (col : Nat) :
    sliceRead s col (shapeOf Gen.accessors "get_slice_~I") = (s.cols[col]?).map (fun c => c.take s.len)
    ∧ sliceRead s col (shapeOf Gen.accessors "get_slice_mut_~I") = (s.cols[col]?).map (fun c => c.take s.len)
    ∧ sliceRead s col (shapeOf Gen.accessors "borrow_slice_~I") = (s.cols[col]?).map (fun c => c.take s.len)
    ∧ sliceRead s col (shapeOf Gen.accessors "borrow_slice_mut_~I") = (s.cols[col]?).map (fun c => c.take s.len)
    ∧ entitiesRead s (shapeOf Gen.accessors "get_slice_entities") = some (s.ents.take s.len) := by
  obtain ⟨_, _, _, _, _, _, h7, h8, h9, h10, h11⟩ := gen_accessors_shapes
  rw [h7, h8, h9, h10, h11]
  exact ⟨rfl, rfl, rfl, rfl, rfl⟩

end Gecs
