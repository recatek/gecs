/-
The world-level key dispatch extracted from macros/src/generate/world.rs (`Gen.worldRows`,
`Gen.worldTryFrom`), read as a routing function, IS the model's `routeWorld` — for every key
kind, every handle (forged archetype ids included), every list of archetype ids, and each of
`contains` / `to_direct` / `destroy`.
-/
import Gecs.Gen.Steps

namespace Gecs

/-- The plan the extracted tables prescribe: typed keys go straight to their archetype, dynamic
keys through the id match — for each of the three operations. -/
theorem gen_world_plan :
    ∀ op ∈ [DOp.contains, DOp.toDirect, DOp.destroy],
      planT Gen.worldRows Gen.worldTryFrom .ent op = .typed ∧ planT Gen.worldRows Gen.worldTryFrom .dir op = .typed
      ∧ planT Gen.worldRows Gen.worldTryFrom .any op = .dyn ∧ planT Gen.worldRows Gen.worldTryFrom .dirAny op = .dyn := by
  decide

theorem gen_world_dispatch (cfg : Cfg) (ids : List Nat) (h : Handle) (op : DOp)
    (hop : op ∈ [DOp.contains, DOp.toDirect, DOp.destroy]) :
    routeT Gen.worldRows Gen.worldTryFrom cfg ids h op = routeWorld cfg ids h := by
  obtain ⟨h1, h2, h3, h4⟩ := gen_world_plan op hop
  have hplan : planT Gen.worldRows Gen.worldTryFrom h.kind op
      = if h.kind.isTyped then .typed else .dyn := by
    cases h.kind with
    | ent => exact h1
    | dir => exact h2
    | any => exact h3
    | dirAny => exact h4
  unfold routeT routeWorld
  rw [hplan]
  cases h.kind.isTyped <;> rfl

end Gecs
