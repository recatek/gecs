/-
Ties the small bit-level expressions GENERATED from /repo's sources on every run
(Gecs/Gen/Exprs.lean, by tools/extract.py: handle packing / unpacking, the hash word, the
`SlotIndex` encoding, the `TrimmedIndex` range test) to the hand-written model
(Model/Bits.lean, Model/Check.lean).  If one of these expressions changes in the Rust code the
generated definition changes and the theorem about it stops checking.

Everything is over `Nat`; the generated definitions make the machine width explicit
(`<<` truncates, `!` complements within the width, `as u8` is `% 256`).
-/
import Gecs.Gen.Exprs
import Gecs.Lemmas.GenTie
import Gecs.Lemmas.Bits

namespace Gecs

/-! ### Handle packing (entity.rs) -/

/-- Without a range hypothesis the translated packing is `packKey` with the shift truncated to
the `u32` width (so the tie does not depend on the range). -/
theorem gen_expr_pack_key_raw (i a : Nat) :
    Gen.entityAnyNewKey i a = ((i <<< ARCHETYPE_ID_BITS) % U32) ||| a
      ∧ Gen.entityDirectAnyNewKey i a = ((i <<< ARCHETYPE_ID_BITS) % U32) ||| a :=
  ⟨rfl, rfl⟩

/-- For an index ≥ 2^24 the `u32` shift would lose bits; `TrimmedIndex` excludes that. -/
theorem gen_expr_pack_key (i a : Nat) (hi : i < MAX_DATA_CAPACITY) :
    Gen.entityAnyNewKey i a = packKey i a ∧ Gen.entityDirectAnyNewKey i a = packKey i a := by
  have hraw := gen_expr_pack_key_raw i a
  have hm : (i <<< ARCHETYPE_ID_BITS) % U32 = i <<< ARCHETYPE_ID_BITS :=
    shl_mod_of_lt (m := 24) 8 hi
  rw [hm] at hraw
  exact hraw

theorem gen_expr_key_id (k : Nat) :
    Gen.entityAnyArchetypeId k = keyId k ∧ Gen.entityDirectAnyArchetypeId k = keyId k :=
  ⟨rfl, rfl⟩

theorem gen_expr_key_index (k : Nat) :
    Gen.entityAnyIndex k = keyIndex k ∧ Gen.entityDirectAnyIndex k = keyIndex k :=
  ⟨rfl, rfl⟩

theorem gen_expr_hash_word (k : Key) (h : k.key < U32) :
    Gen.entityAnyHashWord k.key k.ver = hashInput k
      ∧ Gen.entityDirectAnyHashWord k.key k.ver = hashInput k := by
  unfold Gen.entityAnyHashWord Gen.entityDirectAnyHashWord hashInput
  rw [shl_mod_of_lt (m := 32) 32 h]
  exact ⟨rfl, rfl⟩

/-! ### Slot-index encoding (slot.rs) -/

/-- slot encoding: what `new_free` / `new_data` store is `encodeIdx` of the model's index -/
theorem gen_expr_slot_encode (n : Nat) (h : n < MAX_DATA_CAPACITY) :
    Gen.slotNewFree n = encodeIdx (.free n) ∧ Gen.slotNewData n = encodeIdx (.data n) := by
  refine ⟨?_, rfl⟩
  -- the free bit `1 <<< 31` lies above every data index, so setting it adds it
  show n ||| Gen.FREE_BIT = n + FREE_BIT
  rw [gen_free_bit, Nat.or_comm, Nat.add_comm]
  exact shl_or (n := 31) 1 (Nat.lt_trans h (by decide))

/-- slot decoding: the model's `decodeIdx` is the case analysis the Rust accessors make
(`is_free_end`, then `is_free`, then `index_free` / `index_data`), for every u32 word -/
theorem gen_expr_slot_decode (x : Nat) (hx : x < U32) :
    decodeIdx x =
      if Gen.slotIsFreeEnd x then .freeEnd
      else if Gen.slotIsFree x then .free (Gen.slotIndexFree x)
      else .data (Gen.slotIndexData x) := by
  have hfree : decide (Gen.FREE_BIT &&& x ≠ 0) = decide (FREE_BIT ≤ x) :=
    decide_eq_decide.2 (by rw [gen_free_bit]; exact freeBit_and_ne_zero_iff hx)
  -- `x & !FREE_BIT` keeps the low 31 bits
  have hidx : Gen.slotIndexFree x = x % FREE_BIT := Nat.and_two_pow_sub_one_eq_mod x 31
  unfold Gen.slotIsFreeEnd Gen.slotIsFree Gen.slotIndexData
  rw [gen_free_list_end, hfree, hidx]
  rcases decodeIdx_cases x with ⟨h, e⟩ | ⟨h1, h2, e⟩ | ⟨h, e⟩ <;> rw [e]
  · rw [if_pos (decide_eq_true h)]
  · rw [if_neg (mt of_decide_eq_true h1), if_pos (decide_eq_true h2)]
    -- a `u32` is below `2 * FREE_BIT`, so taking the low 31 bits subtracts `FREE_BIT` once
    rw [Nat.mod_eq_sub_mod h2, Nat.mod_eq_of_lt]
    unfold FREE_BIT; unfold U32 at hx; omega
  · have h1 : x ≠ FREE_LIST_END := fun e => absurd (e ▸ h) (by decide)
    rw [if_neg (mt of_decide_eq_true h1), if_neg (mt of_decide_eq_true (Nat.not_le_of_lt h))]

/-! ### `TrimmedIndex` (index.rs) -/

theorem gen_expr_trimmed (i : Nat) :
    Gen.trimmedNewU32 i = decide (i < MAX_DATA_CAPACITY)
      ∧ Gen.trimmedNewUsize i = decide (i < MAX_DATA_CAPACITY) :=
  ⟨rfl, rfl⟩

/-- consequence used by C08 / C14: the translated packing is injective on in-range words -/
theorem gen_expr_pack_key_inj {i₁ a₁ i₂ a₂ : Nat} (h₁ : i₁ < MAX_DATA_CAPACITY)
    (h₂ : i₂ < MAX_DATA_CAPACITY) (ha₁ : a₁ < 256) (ha₂ : a₂ < 256)
    (h : Gen.entityAnyNewKey i₁ a₁ = Gen.entityAnyNewKey i₂ a₂) :
    i₁ = i₂ ∧ a₁ = a₂ := by
  rw [(gen_expr_pack_key i₁ a₁ h₁).1, (gen_expr_pack_key i₂ a₂ h₂).1,
    packKey_eq i₁ a₁ ha₁, packKey_eq i₂ a₂ ha₂] at h
  exact pack_inj ha₁ ha₂ h

section Examples

-- largest index, largest id: hypotheses satisfiable, and both sides are the all-ones word
example : (16777215 : Nat) < MAX_DATA_CAPACITY := by decide
example : Gen.entityAnyNewKey 16777215 255 = 4294967295 := by decide
example : Gen.entityDirectAnyNewKey 16777215 255 = 4294967295 := by decide
example : Gen.entityAnyNewKey 16777215 255 = packKey 16777215 255 := by decide
example : Gen.entityAnyNewKey 16777215 255 = packKey 16777215 255 :=
  (gen_expr_pack_key 16777215 255 (by decide)).1
example : Gen.entityAnyNewKey 0 0 = packKey 0 0 := by decide
-- one past the largest index: the translated (truncating) packing and `packKey` differ, so the
-- range hypothesis of `gen_expr_pack_key` is needed, and `gen_expr_pack_key_raw` is the full story
example : Gen.entityAnyNewKey 16777216 0 ≠ packKey 16777216 0 := by decide
example : Gen.entityAnyNewKey 16777216 0 = 0 := by decide
-- ... and injectivity fails there as well
example : Gen.entityAnyNewKey 16777216 0 = Gen.entityAnyNewKey 0 0 := by decide
example : Gen.entityAnyNewKey 16777215 255 ≠ Gen.entityAnyNewKey 16777215 254 := by decide
example : Gen.entityAnyNewKey 16777215 255 ≠ Gen.entityAnyNewKey 16777214 255 := by decide

example : Gen.entityAnyArchetypeId 4294967295 = 255 := by decide
example : Gen.entityAnyIndex 4294967295 = 16777215 := by decide
example : Gen.entityDirectAnyArchetypeId 4294967295 = 255 := by decide
example : Gen.entityDirectAnyIndex 4294967295 = 16777215 := by decide
example : Gen.entityAnyArchetypeId (Gen.entityAnyNewKey 16777215 255) = 255 := by decide
example : Gen.entityAnyIndex (Gen.entityAnyNewKey 16777215 255) = 16777215 := by decide

example : (⟨4294967295, 4294967295⟩ : Key).key < U32 := by decide
example : Gen.entityAnyHashWord 4294967295 4294967295 = 18446744073709551615 := by decide
example : Gen.entityAnyHashWord 4294967295 4294967295 = hashInput ⟨4294967295, 4294967295⟩ := by
  decide
example : Gen.entityDirectAnyHashWord 4294967295 1 = hashInput ⟨4294967295, 1⟩ :=
  (gen_expr_hash_word ⟨4294967295, 1⟩ (by decide)).2
-- a key word of 2^32 would be shifted out: the `u32` hypothesis of `gen_expr_hash_word` is needed
example : Gen.entityAnyHashWord 4294967296 1 ≠ hashInput ⟨4294967296, 1⟩ := by decide

example : Gen.slotNewFree 16777215 = encodeIdx (.free 16777215) := by decide
example : Gen.slotNewFree 16777215 = 2164260863 := by decide
example : Gen.slotNewData 16777215 = encodeIdx (.data 16777215) := by decide
example : Gen.slotNewFree 0 = FREE_BIT := by decide
-- with the top bit already set `|` is not `+`: a bound on `n` is needed in `gen_expr_slot_encode`
example : Gen.slotNewFree 2147483648 ≠ encodeIdx (.free 2147483648) := by decide

-- x = FREE_LIST_END, x = FREE_BIT, x = FREE_BIT - 1, x = 0, and the largest free link
example : FREE_LIST_END < U32 ∧ FREE_BIT < U32 ∧ FREE_BIT - 1 < U32 := by decide
example : Gen.slotIsFreeEnd FREE_LIST_END = true := by decide
example : Gen.slotIsFree FREE_LIST_END = true := by decide
example : decodeIdx FREE_LIST_END = .freeEnd := by decide
example : Gen.slotIsFreeEnd FREE_BIT = false ∧ Gen.slotIsFree FREE_BIT = true
    ∧ Gen.slotIndexFree FREE_BIT = 0 := by decide
example : decodeIdx FREE_BIT = .free 0 := by decide
example : Gen.slotIsFreeEnd (FREE_BIT - 1) = false ∧ Gen.slotIsFree (FREE_BIT - 1) = false
    ∧ Gen.slotIndexData (FREE_BIT - 1) = 2147483647 := by decide
example : decodeIdx (FREE_BIT - 1) = .data 2147483647 := by decide
example : decodeIdx 0 = .data 0 ∧ Gen.slotIsFree 0 = false := by decide
example : Gen.slotIsFreeEnd 4294967294 = false ∧ Gen.slotIsFree 4294967294 = true
    ∧ Gen.slotIndexFree 4294967294 = 2147483646 := by decide
example : decodeIdx 4294967294 = .free 2147483646 := by decide
example : decodeIdx FREE_BIT =
    if Gen.slotIsFreeEnd FREE_BIT then .freeEnd
    else if Gen.slotIsFree FREE_BIT then .free (Gen.slotIndexFree FREE_BIT)
    else .data (Gen.slotIndexData FREE_BIT) := gen_expr_slot_decode FREE_BIT (by decide)
-- beyond the `u32` range the bit test and the comparison disagree (the hypothesis is needed)
example : decodeIdx 4294967296 ≠
    (if Gen.slotIsFreeEnd 4294967296 then .freeEnd
     else if Gen.slotIsFree 4294967296 then .free (Gen.slotIndexFree 4294967296)
     else .data (Gen.slotIndexData 4294967296)) := by decide

example : Gen.trimmedNewU32 16777215 = true ∧ Gen.trimmedNewU32 16777216 = false := by decide
example : Gen.trimmedNewUsize 16777215 = true ∧ Gen.trimmedNewUsize 16777216 = false := by decide
example : Gen.trimmedNewU32 0 = true ∧ Gen.trimmedNewUsize 4294967295 = false := by decide

-- a packing other than the code's (the shifted index cut to 24 bits) is not `packKey` on an in-range
-- index: the tie tells expressions apart
example : (fun i a => (((i <<< 8) % 4294967296) &&& 16777215) ||| a) 65536 0 ≠ packKey 65536 0 := by
  decide

end Examples

#print axioms gen_expr_pack_key
#print axioms gen_expr_pack_key_raw
#print axioms gen_expr_key_id
#print axioms gen_expr_key_index
#print axioms gen_expr_hash_word
#print axioms gen_expr_slot_encode
#print axioms gen_expr_slot_decode
#print axioms gen_expr_trimmed
#print axioms gen_expr_pack_key_inj

end Gecs
