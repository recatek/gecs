/-
The loops emitted by `ecs_iter!` and `ecs_iter_destroy!` (`Gecs/Model/Query.lean`): what the
theorems of Props/C06.lean and Props/C07.lean rest on.

Instrumentation.  The user closure `f` is wrapped (`recArgs`, `recR`), the model is untouched;
recording the answers lets the statements name "the call that answered `Break`".
`*_sim`: running a loop / query with a wrapped closure and forgetting the log is running it
with `f`; forgetting only the answers turns the `recR` run into the `recArgs` run.

`ecs_iter!`.  `iterLoop_trace`: call `d` is given what `bindArgs` binds at `d` in the storage the
loop started from (the calls before it wrote rows `< d` only), and `TraceEnd` says how the run
ended.  `iterLoop_trace_inv` is the case of a whole archetype satisfying `Inv`, from which C06
is read off.  `iterLoop_frame`: only cells bound `&mut` change.

`ecs_iter_destroy!`.  `destroyLoop` is followed with `destroyLoop_induct` (Lemmas/LoopRules.lean),
which carries the trace of storages the calls ran in.  The reverse loop keeps `DInv` (the
unvisited prefix `0..i` is that of the initial storage, so swap-remove at the top never moves
an unvisited entity); `DRel` relates a storage to a later one and the handles removed in
between.  `destroyLoop_main` proves `DFacts` of every run from a `DInv` state;
`destroyLoop_spec`, `minted_direct_designates` and `destroyLoop_args_of_trace` are `DFacts` for
a whole archetype satisfying `Inv` and `ColsExist`.

The log-shape statements (`*_shape`: a non-continuing call is the last, across archetypes) need
no invariant.  That no run ends in UB, and `WInv` afterwards, comes from Lemmas/StepRun.lean.

Overflow of a generation / of the archetype version is not excluded by hypothesis: the panic
ends the loop like a break and the theorems say what state it leaves.
-/
import Gecs.Model.Query
import Gecs.Lemmas.LoopRules
import Gecs.Lemmas.Inv
import Gecs.Lemmas.SwapRemove
import Gecs.Lemmas.Destroy
import Gecs.Lemmas.StorageOps
import Gecs.Lemmas.StepRun

namespace Gecs
variable {α σ τ ρ : Type}

/-! Accessors on the model's result types, declared in `Gecs` so that dot notation works; the
rest of the file, the lemmas about these accessors included (`Loops.LoopOut.log?_forgetRes`,
`Loops.LoopOut.stor?_mapSt`, …), lives in `Gecs.Loops`. -/

def CallRes.mapSt (π : τ → σ) : CallRes τ α ρ → CallRes σ α ρ
  | .ret st ws r => .ret (π st) ws r
  | .panic st ws => .panic (π st) ws

def LoopOut.mapSt (π : τ → σ) : LoopOut τ α → LoopOut σ α
  | .done st s => .done (π st) s
  | .stop st s => .stop (π st) s
  | .panic m st s => .panic m (π st) s
  | .ub m => .ub m

def QOut.mapSt (π : τ → σ) : QOut τ α → QOut σ α
  | .ok st w => .ok (π st) w
  | .panic m st w => .panic m (π st) w
  | .ub m => .ub m

def LoopOut.st? : LoopOut σ α → Option σ
  | .done st _ => some st
  | .stop st _ => some st
  | .panic _ st _ => some st
  | .ub _ => none

def LoopOut.stor? : LoopOut σ α → Option (Storage α)
  | .done _ s => some s
  | .stop _ s => some s
  | .panic _ _ s => some s
  | .ub _ => none

theorem LoopOut.sat.stor {P : Storage α → Prop} {o : LoopOut σ α} (h : o.sat P)
    {s' : Storage α} (hs : o.stor? = some s') : P s' := by
  cases o <;> cases hs <;> exact h

/-- The recorded calls of an instrumented run (`none` after UB). -/
def LoopOut.log? {β : Type} (o : LoopOut (σ × List β) α) : Option (List β) := o.st?.map Prod.snd

def QOut.st? : QOut σ α → Option σ
  | .ok st _ => some st
  | .panic _ st _ => some st
  | .ub _ => none

def QOut.world? : QOut σ α → Option (World α)
  | .ok _ w => some w
  | .panic _ _ w => some w
  | .ub _ => none

def QOut.log? {β : Type} (o : QOut (σ × List β) α) : Option (List β) := o.st?.map Prod.snd

end Gecs

namespace Gecs.Loops
variable {α σ τ ρ : Type}

/-- One recorded closure call: the arguments it was given and what it answered
(`none` = it panicked). -/
structure Call (α ρ : Type) where
  args : List (Arg α)
  res : Option ρ

/-- `recArgs f` behaves like `f` and appends the argument list of every call to the second
state component.  Only `iterLoop_visits_recArgs` (Props/C06.lean) and
`destroyLoop_entity_args_recArgs` (Props/C07.lean) are stated with it; the property theorems use
`recR`. -/
def recArgs (f : Closure σ α ρ) : Closure (σ × List (List (Arg α))) α ρ :=
  fun st args =>
    match f st.1 args with
    | .ret st' ws r => .ret (st', st.2 ++ [args]) ws r
    | .panic st' ws => .panic (st', st.2 ++ [args]) ws

/-- `recR f` behaves like `f` and appends the argument list *and the answer* of every call to
the second state component. -/
def recR (f : Closure σ α ρ) : Closure (σ × List (Call α ρ)) α ρ :=
  fun st args =>
    match f st.1 args with
    | .ret st' ws r => .ret (st', st.2 ++ [⟨args, some r⟩]) ws r
    | .panic st' ws => .panic (st', st.2 ++ [⟨args, none⟩]) ws

theorem iterLoop_sim (π : τ → σ) (g : Closure τ α Step) (f : Closure σ α Step)
    (h : ∀ t args, (g t args).mapSt π = f (π t) args) (idA : Nat) (ps : List Param) (v : Nat)
    (idxs : List Nat) (t : τ) (s : Storage α) :
      (iterLoop idA ps g v idxs t s).mapSt π = iterLoop idA ps f v idxs (π t) s := by
  induction idxs generalizing t s with
  | nil => rfl
  | cons idx rest ih =>
    rw [iterLoop, iterLoop]
    cases bindArgs idA s v idx ps with
    | none => rfl
    | some args =>
      dsimp only
      rw [← h t args]
      cases g t args with
      | panic t' ws => rfl
      | ret t' ws r =>
        cases r with
        | brk => rfl
        | cont => exact ih t' _

theorem destroy_sim (π : τ → σ) (g : Closure τ α Step4) (f : Closure σ α Step4)
    (h : ∀ t args, (g t args).mapSt π = f (π t) args) (cfg : Cfg) (idA : Nat) (ps : List Param) :
    ∀ (idxs : List Nat) (t : τ) (s : Storage α),
      (destroyLoop cfg idA ps g idxs t s).mapSt π = destroyLoop cfg idA ps f idxs (π t) s
      ∧ destroyTrace cfg idA ps g idxs t s = destroyTrace cfg idA ps f idxs (π t) s := by
  intro idxs
  induction idxs with
  | nil => intro t s; exact ⟨rfl, rfl⟩
  | cons idx rest ih =>
    intro t s
    rw [destroyLoop, destroyLoop, destroyTrace, destroyTrace]
    cases slicesValid cfg s with
    | false => exact ⟨rfl, rfl⟩
    | true =>
      rw [if_pos rfl, if_pos rfl, if_pos rfl, if_pos rfl]
      cases bindArgs idA s s.version idx ps with
      | none => exact ⟨rfl, rfl⟩
      | some args =>
        dsimp only
        rw [← h t args]
        cases g t args with
        | panic t' ws => exact ⟨rfl, rfl⟩
        | ret t' ws r =>
          have ih' := ih t'
          cases r with
          | brk => exact ⟨rfl, rfl⟩
          | cont => exact ⟨(ih' _).1, congrArg _ (ih' _).2⟩
          | contDestroy | brkDestroy =>
            dsimp only [CallRes.mapSt]
            cases (applyWrites s idx ps ws).ents[idx]? with
            | none => exact ⟨rfl, rfl⟩
            | some e =>
              dsimp only
              cases destroyEnt cfg (applyWrites s idx ps ws) e with
              | panic | ub => exact ⟨rfl, rfl⟩
              | ok _ s2 =>
                -- after the removal `contDestroy` goes on with the loop, `brkDestroy` stops
                first | exact ⟨(ih' s2).1, congrArg _ (ih' s2).2⟩ | exact ⟨rfl, rfl⟩

theorem destroyLoop_sim (π : τ → σ) (g : Closure τ α Step4) (f : Closure σ α Step4)
    (h : ∀ t args, (g t args).mapSt π = f (π t) args) (cfg : Cfg) (idA : Nat) (ps : List Param)
    (idxs : List Nat) (t : τ) (s : Storage α) :
      (destroyLoop cfg idA ps g idxs t s).mapSt π = destroyLoop cfg idA ps f idxs (π t) s :=
  (destroy_sim π g f h cfg idA ps idxs t s).1

theorem destroyTrace_sim (π : τ → σ) (g : Closure τ α Step4) (f : Closure σ α Step4)
    (h : ∀ t args, (g t args).mapSt π = f (π t) args) (cfg : Cfg) (idA : Nat) (ps : List Param)
    (idxs : List Nat) (t : τ) (s : Storage α) :
      destroyTrace cfg idA ps g idxs t s = destroyTrace cfg idA ps f idxs (π t) s :=
  (destroy_sim π g f h cfg idA ps idxs t s).2

theorem iterQuery_sim (π : τ → σ) (g : Closure τ α Step) (f : Closure σ α Step)
    (h : ∀ t args, (g t args).mapSt π = f (π t) args) (cfg : Cfg) (q : Query) (t : τ)
    (w : World α) : (iterQuery cfg g q t w).mapSt π = iterQuery cfg f q (π t) w := by
  induction q generalizing t w with
  | nil => rfl
  | cons qa rest ih =>
    rw [iterQuery, iterQuery]
    cases w.archs[qa.a]? with
    | none => rfl
    | some s =>
      dsimp only
      cases slicesValid cfg s with
      | false => rfl
      | true =>
        rw [if_pos rfl, if_pos rfl, ← iterLoop_sim π g f h]
        cases iterLoop (w.ids.getD qa.a ID_RANGE) qa.params g s.version (List.range s.len) t s with
        | done t' s' => exact ih t' _
        | stop | panic | ub => rfl

theorem iterDestroyQuery_sim (π : τ → σ) (g : Closure τ α Step4) (f : Closure σ α Step4)
    (h : ∀ t args, (g t args).mapSt π = f (π t) args) (cfg : Cfg) (q : Query) (t : τ)
    (w : World α) :
    (iterDestroyQuery cfg g q t w).mapSt π = iterDestroyQuery cfg f q (π t) w := by
  induction q generalizing t w with
  | nil => rfl
  | cons qa rest ih =>
    rw [iterDestroyQuery, iterDestroyQuery]
    cases w.archs[qa.a]? with
    | none => rfl
    | some s =>
      dsimp only
      rw [← destroyLoop_sim π g f h]
      cases destroyLoop cfg (w.ids.getD qa.a ID_RANGE) qa.params g (List.range s.len).reverse t s with
      | done t' s' => exact ih t' _
      | stop | panic | ub => rfl

theorem recArgs_proj (f : Closure σ α ρ) (t : σ × List (List (Arg α))) (args : List (Arg α)) :
    ((recArgs f) t args).mapSt Prod.fst = f t.1 args := by
  unfold recArgs; cases f t.1 args <;> rfl

theorem recR_proj (f : Closure σ α ρ) (t : σ × List (Call α ρ)) (args : List (Arg α)) :
    ((recR f) t args).mapSt Prod.fst = f t.1 args := by
  unfold recR; cases f t.1 args <;> rfl

/-- Forgetting the answers turns the `recR` log into the `recArgs` log. -/
def forgetRes (t : σ × List (Call α ρ)) : σ × List (List (Arg α)) := (t.1, t.2.map Call.args)

theorem recR_proj_recArgs (f : Closure σ α ρ) (t : σ × List (Call α ρ)) (args : List (Arg α)) :
    ((recR f) t args).mapSt forgetRes = (recArgs f) (forgetRes t) args := by
  unfold recR recArgs forgetRes; cases f t.1 args <;> simp [CallRes.mapSt]

theorem recR_ret {f : Closure σ α ρ} {t : σ × List (Call α ρ)} {args t' ws r}
    (h : recR f t args = .ret t' ws r) : t'.2 = t.2 ++ [⟨args, some r⟩] := by
  unfold recR at h; split at h <;> cases h; rfl

theorem recR_panic {f : Closure σ α ρ} {t : σ × List (Call α ρ)} {args t' ws}
    (h : recR f t args = .panic t' ws) : t'.2 = t.2 ++ [⟨args, none⟩] := by
  unfold recR at h; split at h <;> cases h; rfl

/-! The `*_sim` lemmas along `Prod.fst` (forget the log) and along `forgetRes` (forget the
answers): the instrumented runs are the plain runs. -/

theorem iterLoop_recArgs_sim (idA : Nat) (ps : List Param) (f : Closure σ α Step) (v : Nat)
    (idxs : List Nat) (st : σ) (L : List (List (Arg α))) (s : Storage α) :
    (iterLoop idA ps (recArgs f) v idxs (st, L) s).mapSt Prod.fst = iterLoop idA ps f v idxs st s :=
  iterLoop_sim Prod.fst (recArgs f) f (recArgs_proj f) idA ps v idxs (st, L) s

theorem iterLoop_recR_sim (idA : Nat) (ps : List Param) (f : Closure σ α Step) (v : Nat)
    (idxs : List Nat) (st : σ) (L : List (Call α Step)) (s : Storage α) :
    (iterLoop idA ps (recR f) v idxs (st, L) s).mapSt Prod.fst = iterLoop idA ps f v idxs st s :=
  iterLoop_sim Prod.fst (recR f) f (recR_proj f) idA ps v idxs (st, L) s

theorem iterLoop_recR_recArgs (idA : Nat) (ps : List Param) (f : Closure σ α Step) (v : Nat)
    (idxs : List Nat) (st : σ) (L : List (Call α Step)) (s : Storage α) :
    (iterLoop idA ps (recR f) v idxs (st, L) s).mapSt forgetRes
      = iterLoop idA ps (recArgs f) v idxs (st, L.map Call.args) s :=
  iterLoop_sim forgetRes (recR f) (recArgs f) (recR_proj_recArgs f) idA ps v idxs (st, L) s

theorem destroyLoop_recArgs_sim (cfg : Cfg) (idA : Nat) (ps : List Param) (f : Closure σ α Step4)
    (idxs : List Nat) (st : σ) (L : List (List (Arg α))) (s : Storage α) :
    (destroyLoop cfg idA ps (recArgs f) idxs (st, L) s).mapSt Prod.fst
      = destroyLoop cfg idA ps f idxs st s :=
  destroyLoop_sim Prod.fst (recArgs f) f (recArgs_proj f) cfg idA ps idxs (st, L) s

theorem destroyLoop_recR_sim (cfg : Cfg) (idA : Nat) (ps : List Param) (f : Closure σ α Step4)
    (idxs : List Nat) (st : σ) (L : List (Call α Step4)) (s : Storage α) :
    (destroyLoop cfg idA ps (recR f) idxs (st, L) s).mapSt Prod.fst
      = destroyLoop cfg idA ps f idxs st s :=
  destroyLoop_sim Prod.fst (recR f) f (recR_proj f) cfg idA ps idxs (st, L) s

theorem destroyLoop_recR_recArgs (cfg : Cfg) (idA : Nat) (ps : List Param)
    (f : Closure σ α Step4) (idxs : List Nat) (st : σ) (L : List (Call α Step4)) (s : Storage α) :
    (destroyLoop cfg idA ps (recR f) idxs (st, L) s).mapSt forgetRes
      = destroyLoop cfg idA ps (recArgs f) idxs (st, L.map Call.args) s :=
  destroyLoop_sim forgetRes (recR f) (recArgs f) (recR_proj_recArgs f) cfg idA ps idxs (st, L) s

theorem iterQuery_recArgs_sim (cfg : Cfg) (f : Closure σ α Step) (q : Query) (st : σ)
    (L : List (List (Arg α))) (w : World α) :
    (iterQuery cfg (recArgs f) q (st, L) w).mapSt Prod.fst = iterQuery cfg f q st w :=
  iterQuery_sim Prod.fst (recArgs f) f (recArgs_proj f) cfg q (st, L) w

theorem iterQuery_recR_sim (cfg : Cfg) (f : Closure σ α Step) (q : Query) (st : σ)
    (L : List (Call α Step)) (w : World α) :
    (iterQuery cfg (recR f) q (st, L) w).mapSt Prod.fst = iterQuery cfg f q st w :=
  iterQuery_sim Prod.fst (recR f) f (recR_proj f) cfg q (st, L) w

theorem iterQuery_recR_recArgs (cfg : Cfg) (f : Closure σ α Step) (q : Query) (st : σ)
    (L : List (Call α Step)) (w : World α) :
    (iterQuery cfg (recR f) q (st, L) w).mapSt forgetRes
      = iterQuery cfg (recArgs f) q (st, L.map Call.args) w :=
  iterQuery_sim forgetRes (recR f) (recArgs f) (recR_proj_recArgs f) cfg q (st, L) w

theorem iterDestroyQuery_recArgs_sim (cfg : Cfg) (f : Closure σ α Step4) (q : Query) (st : σ)
    (L : List (List (Arg α))) (w : World α) :
    (iterDestroyQuery cfg (recArgs f) q (st, L) w).mapSt Prod.fst = iterDestroyQuery cfg f q st w :=
  iterDestroyQuery_sim Prod.fst (recArgs f) f (recArgs_proj f) cfg q (st, L) w

theorem iterDestroyQuery_recR_sim (cfg : Cfg) (f : Closure σ α Step4) (q : Query) (st : σ)
    (L : List (Call α Step4)) (w : World α) :
    (iterDestroyQuery cfg (recR f) q (st, L) w).mapSt Prod.fst = iterDestroyQuery cfg f q st w :=
  iterDestroyQuery_sim Prod.fst (recR f) f (recR_proj f) cfg q (st, L) w

theorem iterDestroyQuery_recR_recArgs (cfg : Cfg) (f : Closure σ α Step4) (q : Query) (st : σ)
    (L : List (Call α Step4)) (w : World α) :
    (iterDestroyQuery cfg (recR f) q (st, L) w).mapSt forgetRes
      = iterDestroyQuery cfg (recArgs f) q (st, L.map Call.args) w :=
  iterDestroyQuery_sim forgetRes (recR f) (recArgs f) (recR_proj_recArgs f) cfg q (st, L) w

theorem LoopOut.log?_forgetRes (o : LoopOut (σ × List (Call α ρ)) α) :
    (o.mapSt forgetRes).log? = o.log?.map (fun l => l.map Call.args) := by
  cases o <;> rfl

theorem QOut.log?_forgetRes (o : QOut (σ × List (Call α ρ)) α) :
    (o.mapSt forgetRes).log? = o.log?.map (fun l => l.map Call.args) := by
  cases o <;> rfl

theorem LoopOut.stor?_mapSt (π : τ → σ) (o : LoopOut τ α) : (o.mapSt π).stor? = o.stor? := by
  cases o <;> rfl

/-- Holds of every expansion of the macros (a parameter is bound to a column of the archetype
iterated); without it the first step panics (`iterLoop_bad_col`, `destroyLoop_bad_col`). -/
def ColsExist (s : Storage α) (ps : List Param) : Prop :=
  ∀ p ∈ ps, ∀ (c : Nat) (m : Bool), p = .comp c m → c < s.cols.length

theorem ColsExist.comp_lt {s : Storage α} {ps : List Param} (h : ColsExist s ps) (c : Nat) (m : Bool)
    (hm : Param.comp c m ∈ ps) : c < s.cols.length := h _ hm c m rfl

theorem ColsExist.of_ncols {s s' : Storage α} {ps : List Param} (h : ColsExist s ps)
    (hn : s'.cols.length = s.cols.length) : ColsExist s' ps :=
  fun p hp c m hpc => hn ▸ h p hp c m hpc

theorem bindArgs_bad_col (idA : Nat) (s : Storage α) (v idx : Nat) {ps : List Param}
    (hbad : ∃ p ∈ ps, ∃ (c : Nat) (m : Bool), p = .comp c m ∧ s.cols.length ≤ c) :
    bindArgs idA s v idx ps = none := by
  cases hb : bindArgs idA s v idx ps with
  | none => rfl
  | some args =>
    obtain ⟨p, hp, c, m, rfl, hc⟩ := hbad
    obtain ⟨i, hi⟩ := List.getElem?_of_mem hp
    obtain ⟨a, _, ha⟩ := bindArgs_getElem? hb hi
    have : s.cols[c]? = none := List.getElem?_eq_none_iff.mpr hc
    simp [bindArg, this] at ha

theorem writeCell_getD_ne (s : Storage α) (d c : Nat) (x : α) (c' j : Nat) (hj : j ≠ d) :
    ((writeCell s d c x).cols.getD c' [])[j]? = (s.cols.getD c' [])[j]? := by
  simp only [writeCell, List.getD_eq_getElem?_getD, List.getElem?_modify]
  by_cases hc : c = c'
  · subst hc
    cases hs : s.cols[c]? with
    | none => simp
    | some col => simp [List.getElem?_set_ne (Ne.symm hj)]
  · simp [hc]

theorem writeCell_col_ne (s : Storage α) (d c : Nat) (x : α) (c' : Nat) (hc : c' ≠ c) :
    (writeCell s d c x).cols[c']? = s.cols[c']? := by
  simp only [writeCell, List.getElem?_modify]
  simp [Ne.symm hc]

/-- Everything that writes through the `&mut` parameters `ps` at the rows `I` leave alone. -/
structure WFrame (I : List Nat) (ps : List Param) (s s' : Storage α) : Prop where
  ents : s'.ents = s.ents
  len : s'.len = s.len
  version : s'.version = s.version
  slots : s'.slots = s.slots
  capacity : s'.capacity = s.capacity
  freeHead : s'.freeHead = s.freeHead
  created : s'.created = s.created
  destroyed : s'.destroyed = s.destroyed
  ncols : s'.cols.length = s.cols.length
  /-- only rows in `I` are written -/
  rows : ∀ (c j : Nat), j ∉ I → (s'.cols.getD c [])[j]? = (s.cols.getD c [])[j]?
  /-- only columns bound mutably are written -/
  cols : ∀ (c : Nat), Param.comp c true ∉ ps → s'.cols[c]? = s.cols[c]?

theorem WFrame.refl (I : List Nat) (ps : List Param) (s : Storage α) : WFrame I ps s s :=
  ⟨rfl, rfl, rfl, rfl, rfl, rfl, rfl, rfl, rfl, fun _ _ _ => rfl, fun _ _ => rfl⟩

theorem WFrame.trans {I : List Nat} {ps : List Param} {s s' s'' : Storage α}
    (h1 : WFrame I ps s s') (h2 : WFrame I ps s' s'') : WFrame I ps s s'' :=
  ⟨h2.ents.trans h1.ents, h2.len.trans h1.len, h2.version.trans h1.version,
   h2.slots.trans h1.slots, h2.capacity.trans h1.capacity, h2.freeHead.trans h1.freeHead,
   h2.created.trans h1.created, h2.destroyed.trans h1.destroyed, h2.ncols.trans h1.ncols,
   fun c j hj => (h2.rows c j hj).trans (h1.rows c j hj),
   fun c hc => (h2.cols c hc).trans (h1.cols c hc)⟩

theorem WFrame.mono {I I' : List Nat} {ps ps' : List Param} {s s' : Storage α}
    (h : WFrame I ps s s') (hI : ∀ i ∈ I, i ∈ I') (hsub : ∀ p ∈ ps, p ∈ ps') : WFrame I' ps' s s' :=
  { h with
    rows := fun c j hj => h.rows c j (fun hm => hj (hI _ hm))
    cols := fun c hc => h.cols c (fun hm => hc (hsub _ hm)) }

theorem writeCell_frame (s : Storage α) (idx c : Nat) (x : α) :
    WFrame [idx] [.comp c true] s (writeCell s idx c x) :=
  ⟨rfl, rfl, rfl, rfl, rfl, rfl, rfl, rfl, writeCell_cols_length s idx c x,
    fun c' j hj => writeCell_getD_ne s idx c x c' j (by simpa using hj),
    fun c' hc' => writeCell_col_ne s idx c x c' fun heq => hc' (heq ▸ List.mem_cons_self)⟩

theorem applyWrites_frame (idx : Nat) (ps : List Param) (ws : List (Option α)) (s : Storage α) :
    WFrame [idx] ps s (applyWrites s idx ps ws) :=
  applyWrites_rule idx ps ws s (fun s1 c x hm h =>
    h.trans ((writeCell_frame s1 idx c x).mono (fun _ h => h) (by simpa using hm)))
    (.refl _ _ _)

theorem map_eq_map_of_getElem? {β γ δ : Type} {l1 : List β} {l2 : List γ} {f : β → δ}
    {g : γ → δ} (hl : l1.length = l2.length)
    (h : ∀ (j : Nat) a b, l1[j]? = some a → l2[j]? = some b → f a = g b) :
    l1.map f = l2.map g := by
  apply List.ext_getElem?
  intro j
  simp only [List.getElem?_map]
  cases h1 : l1[j]? with
  | none => rw [List.getElem?_eq_none_iff.mpr (hl ▸ List.getElem?_eq_none_iff.mp h1)]; rfl
  | some a =>
    have hj : j < l2.length := hl ▸ (List.getElem?_eq_some_iff.mp h1).1
    rw [List.getElem?_eq_getElem hj]
    exact congrArg some (h j a _ h1 (List.getElem?_eq_getElem hj))

/-- Every element but the last satisfies `P`. -/
def ContPrefix {β : Type} (P : β → Prop) (l : List β) : Prop :=
  ∀ (i : Nat) (c : β), l[i]? = some c → i + 1 < l.length → P c

theorem ContPrefix.nil {β : Type} (P : β → Prop) : ContPrefix P [] := by
  intro i c h; simp at h

theorem ContPrefix.single {β : Type} (P : β → Prop) (c : β) : ContPrefix P [c] := by
  intro i c' _ h2; simp at h2

theorem ContPrefix.cons {β : Type} {P : β → Prop} {c : β} {l : List β} (hc : P c)
    (h : ContPrefix P l) : ContPrefix P (c :: l) := by
  intro i c' h1 h2
  cases i with
  | zero => simp at h1; subst h1; exact hc
  | succ i => exact h i c' (by simpa using h1) (by simp at h2; omega)

theorem ContPrefix.of_all {β : Type} {P : β → Prop} {l : List β} (h : ∀ c ∈ l, P c) :
    ContPrefix P l := fun _ _ h1 _ => h _ (List.mem_of_getElem? h1)

theorem ContPrefix.append {β : Type} {P : β → Prop} {l1 l2 : List β} (h1 : ∀ c ∈ l1, P c)
    (h2 : ContPrefix P l2) : ContPrefix P (l1 ++ l2) := by
  induction l1 with
  | nil => simpa using h2
  | cons c l1 ih =>
    exact ContPrefix.cons (h1 c List.mem_cons_self) (ih (fun x hx => h1 x (List.mem_cons_of_mem _ hx)))

/-- The point of `ContPrefix`: an element that does not satisfy `P` is the last one. -/
theorem ContPrefix.last_of_not {β : Type} {P : β → Prop} {l : List β} (h : ContPrefix P l)
    {k : Nat} {c : β} (hk : l[k]? = some c) (hc : ¬ P c) : l.length = k + 1 := by
  have hlt := (List.getElem?_eq_some_iff.mp hk).1
  by_cases h2 : k + 1 < l.length
  · exact absurd (h k c hk h2) hc
  · omega

/-! ## C06: `ecs_iter!` -/

theorem iterLoop_not_ub (idA : Nat) (ps : List Param) (f : Closure σ α Step) (v : Nat) :
    ∀ (idxs : List Nat) (st : σ) (s : Storage α) (m : String),
      iterLoop idA ps f v idxs st s ≠ .ub m := fun idxs st s =>
  LoopOut.sat_not_ub
    (iterLoop_rule (P := fun _ => True) idA ps f v idxs st s (fun _ _ _ _ _ => trivial) trivial)

theorem iterLoop_frame (idA : Nat) (ps : List Param) (f : Closure σ α Step) (v : Nat) :
    ∀ (idxs : List Nat) (st : σ) (s s' : Storage α),
      (iterLoop idA ps f v idxs st s).stor? = some s' → WFrame idxs ps s s' := fun idxs st s _ =>
  (iterLoop_rule idA ps f v idxs st s (fun idx hi s1 ws h =>
    h.trans ((applyWrites_frame idx ps ws s1).mono (by simpa using hi) (fun _ h => h)))
    (WFrame.refl _ _ _)).stor

/-- Without `ColsExist`: a parameter bound to a column the storage does not have makes the
first step fail with "index out of bounds"; the closure is never called. -/
theorem iterLoop_bad_col (idA : Nat) (ps : List Param) (f : Closure σ α Step) (v : Nat) (st : σ)
    (s : Storage α) (hlen : 0 < s.len)
    (hbad : ∃ p ∈ ps, ∃ (c : Nat) (m : Bool), p = .comp c m ∧ s.cols.length ≤ c) :
    iterLoop idA ps f v (List.range s.len) st s = .panic "index out of bounds" st s := by
  obtain ⟨n, hn⟩ : ∃ n, s.len = n + 1 := ⟨s.len - 1, by omega⟩
  rw [hn, List.range_eq_range', List.range'_succ, iterLoop, bindArgs_bad_col idA s v 0 hbad]

/-- What the outcome of one `ecs_iter!` loop says about the calls `new` it made. -/
def IterEnd (n : Nat) (new : List (Call α Step)) : LoopOut (σ × List (Call α Step)) α → Prop
  | .done _ _ => new.length = n ∧ ∀ c ∈ new, c.res = some .cont
  | .stop _ _ => ∃ init c, new = init ++ [c] ∧ c.res = some .brk
  | .panic m _ _ =>
    (m = "closure" ∧ ∃ init c, new = init ++ [c] ∧ c.res = none) ∨ m = "index out of bounds"
  | .ub _ => False

theorem IterEnd.cons {n : Nat} {new : List (Call α Step)} {c : Call α Step}
    {o : LoopOut (σ × List (Call α Step)) α} (hc : c.res = some .cont) (h : IterEnd n new o) :
    IterEnd (n + 1) (c :: new) o := by
  cases o with
  | done => exact ⟨congrArg (· + 1) h.1, List.forall_mem_cons.mpr ⟨hc, h.2⟩⟩
  | stop => obtain ⟨init, l, ha, hb⟩ := h; exact ⟨c :: init, l, by rw [ha]; rfl, hb⟩
  | panic =>
    exact h.imp_left fun ⟨hm, init, l, ha, hb⟩ => ⟨hm, c :: init, l, by rw [ha]; rfl, hb⟩
  | ub => exact h

theorem iterLoop_shape (idA : Nat) (ps : List Param) (f : Closure σ α Step) (v : Nat)
    (idxs : List Nat) (t : σ × List (Call α Step)) (s : Storage α) :
      ∃ new, (iterLoop idA ps (recR f) v idxs t s).log? = some (t.2 ++ new)
        ∧ ContPrefix (fun c => c.res = some .cont) new
        ∧ IterEnd idxs.length new (iterLoop idA ps (recR f) v idxs t s) := by
  fun_induction iterLoop idA ps (recR f) v idxs t s with
  | case1 t s => exact ⟨[], by rw [List.append_nil]; rfl, .nil _, rfl, nofun⟩
  | case2 _ _ t s => exact ⟨[], by rw [List.append_nil]; rfl, .nil _, .inr rfl⟩
  | case3 _ _ t s args _ t' ws hg =>
    exact ⟨[⟨args, none⟩], congrArg some (recR_panic hg), .single _ _, .inl ⟨rfl, [], _, rfl, rfl⟩⟩
  | case4 _ _ t s args _ t' ws hg =>
    exact ⟨[⟨args, some .brk⟩], congrArg some (recR_ret hg), .single _ _, [], _, rfl, rfl⟩
  | case5 _ _ t s args _ t' ws hg ih =>
    obtain ⟨new, h1, h3, h4⟩ := ih
    rw [recR_ret hg, List.append_assoc] at h1
    exact ⟨_ :: new, h1, .cons rfl h3, h4.cons rfl⟩

/-- How one `ecs_iter!` loop over `n` bindable indices ended after `k` calls with answers
`new.map (·.res)`. -/
def TraceEnd (n k : Nat) (new : List (Call α Step)) : LoopOut (σ × List (Call α Step)) α → Prop
  | .done _ _ => k = n ∧ new.map (·.res) = List.replicate k (some .cont)
  | .stop _ _ => ∃ j, k = j + 1 ∧ new.map (·.res) = List.replicate j (some .cont) ++ [some .brk]
  | .panic m _ _ =>
    m = "closure" ∧ ∃ j, k = j + 1 ∧ new.map (·.res) = List.replicate j (some .cont) ++ [none]
  | .ub _ => False

theorem TraceEnd.cons {n k : Nat} {new : List (Call α Step)} {c : Call α Step}
    {o : LoopOut (σ × List (Call α Step)) α} (hc : c.res = some .cont) (h : TraceEnd n k new o) :
    TraceEnd (n + 1) (k + 1) (c :: new) o := by
  cases o with
  | done => exact ⟨congrArg (· + 1) h.1, by rw [List.map_cons, hc, h.2, List.replicate_succ]⟩
  | stop =>
    obtain ⟨j, hk, hr⟩ := h
    exact ⟨j + 1, congrArg (· + 1) hk, by rw [List.map_cons, hc, hr, List.replicate_succ]; rfl⟩
  | panic =>
    obtain ⟨hm, j, hk, hr⟩ := h
    exact ⟨hm, j + 1, congrArg (· + 1) hk, by rw [List.map_cons, hc, hr, List.replicate_succ]; rfl⟩
  | ub => exact h

/-- Stated, for the induction, over the dense indices `a, a+1, …, a+n-1` and from any storage `s`
that agrees with `s0` on the handles and on the rows `≥ a`: the `d`-th call gets what `bindArgs`
binds at `d` **in `s0`**, because earlier calls only wrote rows `< d` (`applyWrites_frame`). -/
theorem iterLoop_trace (idA : Nat) (ps : List Param) (f : Closure σ α Step) (v : Nat)
    (s0 : Storage α) :
    ∀ (n a : Nat) (t : σ × List (Call α Step)) (s : Storage α),
      s.ents = s0.ents →
      (∀ c j, a ≤ j → (s.cols.getD c [])[j]? = (s0.cols.getD c [])[j]?) →
      (∀ d, a ≤ d → d < a + n → ∃ args, bindArgs idA s0 v d ps = some args) →
      ∃ (k : Nat) (new : List (Call α Step)), k ≤ n
        ∧ (iterLoop idA ps (recR f) v (List.range' a n) t s).log? = some (t.2 ++ new)
        ∧ new.map (fun c => some c.args) = (List.range' a k).map (fun d => bindArgs idA s0 v d ps)
        ∧ TraceEnd n k new (iterLoop idA ps (recR f) v (List.range' a n) t s) := by
  intro n
  induction n with
  | zero =>
    intro a t s _ _ _
    exact ⟨0, [], Nat.le_refl _, by rw [List.append_nil]; rfl, rfl, rfl, rfl⟩
  | succ n ih =>
    intro a t s hents hrows hbind
    obtain ⟨args, hargs⟩ := hbind a (Nat.le_refl _) (by omega)
    have hb : bindArgs idA s v a ps = some args :=
      (bindArgs_congr idA s s0 v a (by rw [hents]) (fun c => hrows c a (Nat.le_refl _)) ps).trans hargs
    -- the first call, whatever it answers, is given `args`
    have h1 : ∀ (r : Option Step) (k : Nat) (new : List (Call α Step)),
        new.map (fun c => some c.args) = (List.range' (a + 1) k).map (fun d => bindArgs idA s0 v d ps) →
        ((⟨args, r⟩ : Call α Step) :: new).map (fun c => some c.args)
          = (List.range' a (k + 1)).map (fun d => bindArgs idA s0 v d ps) := by
      intro r k new h; rw [List.range'_succ, List.map_cons, List.map_cons, h, hargs]
    rw [List.range'_succ, iterLoop, hb]
    dsimp only
    cases hg : recR f t args with
    | panic t' ws =>
      exact ⟨1, [⟨args, none⟩], by omega, congrArg some (recR_panic hg), h1 _ 0 [] rfl, rfl, 0, rfl, rfl⟩
    | ret t' ws r =>
      cases r with
      | brk =>
        exact ⟨1, [⟨args, some .brk⟩], by omega, congrArg some (recR_ret hg), h1 _ 0 [] rfl, 0, rfl, rfl⟩
      | cont =>
        dsimp only
        have hfr := applyWrites_frame a ps ws s
        obtain ⟨k, new, hk, hlog, hmap, hend⟩ :=
          ih (a + 1) t' (applyWrites s a ps ws) (hfr.ents.trans hents)
            (fun c j hj => (hfr.rows c j (by simp; omega)).trans (hrows c j (by omega)))
            (fun d hd1 hd2 => hbind d (by omega) (by omega))
        rw [recR_ret hg, List.append_assoc] at hlog
        exact ⟨k + 1, ⟨args, some .cont⟩ :: new, by omega, hlog, h1 _ k new hmap, hend.cons rfl⟩

theorem iterLoop_trace_inv {cfg : Cfg} {s : Storage α} (h : Inv cfg s) (idA : Nat)
    {ps : List Param} (hps : ColsExist s ps) (f : Closure σ α Step) (t : σ × List (Call α Step)) :
    ∃ (k : Nat) (new : List (Call α Step)), k ≤ s.len
      ∧ (iterLoop idA ps (recR f) s.version (List.range s.len) t s).log? = some (t.2 ++ new)
      ∧ new.map (fun c => some c.args)
          = (List.range k).map (fun d => bindArgs idA s s.version d ps)
      ∧ TraceEnd s.len k new (iterLoop idA ps (recR f) s.version (List.range s.len) t s) := by
  simp only [List.range_eq_range']
  exact iterLoop_trace idA ps f s.version s s.len 0 t s rfl (fun _ _ _ => rfl)
    (fun d _ hd => bindArgs_isSome h idA s.version (by omega) ps hps.comp_lt)

/-- Number of live entities of archetype `a` (0 if there is no such archetype). -/
def archLen (w : World α) (a : Nat) : Nat := ((w.archs[a]?).map (·.len)).getD 0

theorem archLen_setArch {w : World α} {a : Nat} {s s' : Storage α} (ha : w.archs[a]? = some s)
    (hlen : s'.len = s.len) (b : Nat) : archLen (w.setArch a s') b = archLen w b := by
  unfold archLen
  by_cases hab : a = b
  · subst hab
    rw [World.setArch_get_self s' (List.getElem?_eq_some_iff.mp ha).1, ha]
    exact hlen
  · rw [World.setArch_get_ne s' hab]

/-- What the outcome of a whole `ecs_iter!` says about the calls `new` it made. -/
def QEnd (w : World α) (q : Query) (new : List (Call α Step)) :
    QOut (σ × List (Call α Step)) α → Prop
  | .ok _ _ => (∀ c ∈ new, c.res = some .cont) → new.length = (q.map (fun qa => archLen w qa.a)).sum
  | .panic m _ _ =>
    (m = "closure" ∧ ∃ init c, new = init ++ [c] ∧ c.res = none) ∨ m = "index out of bounds"
  | .ub _ => True

theorem iterQuery_shape (cfg : Cfg) (f : Closure σ α Step) (q : Query)
    (t : σ × List (Call α Step)) (w : World α) (log : List (Call α Step)) :
      (iterQuery cfg (recR f) q t w).log? = some log →
      ∃ new, log = t.2 ++ new ∧ ContPrefix (fun c => c.res = some .cont) new
        ∧ QEnd w q new (iterQuery cfg (recR f) q t w) := by
  fun_induction iterQuery cfg (recR f) q t w with
  | case1 t w => intro h; cases h; exact ⟨[], (List.append_nil _).symm, .nil _, fun _ => rfl⟩
  | case2 | case6 | case7 => nofun
  | case3 qa rest t w s ha _ t' s' ho ih =>
    obtain ⟨new1, h1, _, hend1⟩ := iterLoop_shape (w.ids.getD qa.a ID_RANGE) qa.params f s.version
      (List.range s.len) t s
    rw [ho] at h1 hend1
    obtain ⟨hl1, hc1⟩ := hend1
    have hlen : s'.len = s.len := ((iterLoop_frame _ _ _ _ _ _ _ s' (by rw [ho]; rfl)).len)
    intro h
    obtain ⟨new2, hlog, hcp, hend⟩ := ih h
    rw [Option.some.inj h1, List.append_assoc] at hlog
    refine ⟨new1 ++ new2, hlog, .append hc1 hcp, ?_⟩
    cases ho2 : iterQuery cfg (recR f) rest t' (w.setArch qa.a s') <;> rw [ho2] at hend
    · intro hall
      have := hend fun c hc => hall c (List.mem_append_right _ hc)
      simp only [List.length_append, List.map_cons, List.sum_cons, this, hl1, List.length_range]
      have e1 : archLen w qa.a = s.len := by simp [archLen, ha]
      rw [e1]
      congr 2
      exact List.map_congr_left fun qb _ => archLen_setArch ha hlen qb.a
    · exact hend.imp_left fun ⟨hm, init, c, hi, hc⟩ => ⟨hm, new1 ++ init, c, by rw [hi]; simp, hc⟩
    · trivial
  | case4 qa rest t w s ha _ t' s' ho =>
    obtain ⟨new1, h1, hcp, hend1⟩ := iterLoop_shape (w.ids.getD qa.a ID_RANGE) qa.params f
      s.version (List.range s.len) t s
    rw [ho] at h1 hend1
    obtain ⟨init, c, hi, hc⟩ := hend1
    intro h
    refine ⟨new1, (Option.some.inj (h.symm.trans h1)), hcp, fun hall => ?_⟩
    have := hall c (by rw [hi]; simp)
    rw [hc] at this; cases this
  | case5 qa rest t w s ha _ m t' s' ho =>
    obtain ⟨new1, h1, hcp, hend⟩ := iterLoop_shape (w.ids.getD qa.a ID_RANGE) qa.params f
      s.version (List.range s.len) t s
    rw [ho] at h1 hend
    intro h
    exact ⟨new1, (Option.some.inj (h.symm.trans h1)), hcp, hend⟩

/-- Every listed archetype exists and has the columns its parameters are bound to. -/
def QueryOk (w : World α) (q : Query) : Prop :=
  ∀ qa ∈ q, ∃ s, w.archs[qa.a]? = some s ∧ ColsExist s qa.params

theorem QueryOk.setArch {w : World α} {q : Query} (hq : QueryOk w q) {a : Nat} {s s' : Storage α}
    (ha : w.archs[a]? = some s) (hn : s'.cols.length = s.cols.length) :
    QueryOk (w.setArch a s') q := by
  intro qa hqa
  obtain ⟨sb, hsb, hcols⟩ := hq qa hqa
  by_cases hab : a = qa.a
  · subst hab
    rw [ha] at hsb; cases hsb
    exact ⟨s', World.setArch_get_self s' (List.getElem?_eq_some_iff.mp ha).1, hcols.of_ncols hn⟩
  · exact ⟨sb, (World.setArch_get_ne s' hab).trans hsb, hcols⟩

theorem iterQuery_cases {cfg : Cfg} (f : Closure σ α Step) (q : Query) (st : σ)
    (L : List (Call α Step)) (w : World α) (hw : WInv cfg w) (hq : QueryOk w q) :
    (∃ t' w', iterQuery cfg (recR f) q (st, L) w = .ok t' w')
    ∨ (∃ t' w', iterQuery cfg (recR f) q (st, L) w = .panic "closure" t' w') := by
  induction q generalizing st L w with
  | nil => exact .inl ⟨_, _, rfl⟩
  | cons qa rest ih =>
    obtain ⟨⟨s, ha, hcols⟩, hrest⟩ := List.forall_mem_cons.mp hq
    have hinv : Inv cfg s := hw.inv s (List.mem_of_getElem? ha)
    have hsp := Gecs.iterLoop_spec hinv (w.ids.getD qa.a ID_RANGE) qa.params (recR f) s.version
      (List.range s.len) (st, L)
    rw [iterQuery, ha]
    simp only [slicesValid_of_inv hinv, if_true]
    obtain ⟨_, _, _, _, _, hend⟩ :=
      iterLoop_trace_inv hinv (w.ids.getD qa.a ID_RANGE) hcols f (st, L)
    cases ho : iterLoop (w.ids.getD qa.a ID_RANGE) qa.params (recR f) s.version
        (List.range s.len) (st, L) s <;> rw [ho] at hsp hend
    case done t' s' =>
      obtain ⟨hinv', _, _, hncols, _⟩ := hsp
      exact ih t'.1 t'.2 _ (hw.setArch qa.a hinv') (QueryOk.setArch hrest ha hncols)
    case stop => exact .inl ⟨_, _, rfl⟩
    case panic => obtain ⟨rfl, _⟩ := hend; exact .inr ⟨_, _, rfl⟩
    case ub => exact hend.elim

/-! ## C07: `ecs_iter_destroy!` -/

/-- No bound on `c`: a column the storage does not have reads as empty before and after. -/
theorem cols_swapRemove_row {cfg : Cfg} {s : Storage α} (h : Inv cfg s) {i d : Nat}
    (hi : i < s.len) (hd : d < s.len - 1) (c : Nat) :
    ((s.cols.map (fun col => swapRemove col i)).getD c [])[d]?
      = (s.cols.getD c [])[swapSrc s.len i d]? := by
  simp only [List.getD_eq_getElem?_getD, List.getElem?_map]
  cases hc : s.cols[c]? with
  | none => simp
  | some col =>
    have hl : col.length = s.len := h.colsLen _ (List.mem_of_getElem? hc)
    simp only [Option.map_some, Option.getD_some]
    rw [swapRemove_getElem?_src _ _ _ (by rw [hl]; exact hi) (by rw [hl]; exact hd), hl]

/-- Invariant of `for idx in (0..i).rev()`: the unvisited prefix `0..i` of the current storage
`s1` — handles and rows — is still that of the initial storage `s0`. -/
structure DInv (cfg : Cfg) (ps : List Param) (s0 : Storage α) (i : Nat) (s1 : Storage α) :
    Prop where
  inv : Inv cfg s1
  le : i ≤ s1.len
  ents : s1.ents.take i = s0.ents.take i
  rows : ∀ (c j : Nat), j < i → (s1.cols.getD c [])[j]? = (s0.cols.getD c [])[j]?
  cols : ColsExist s1 ps

theorem DInv.ents_lt {cfg : Cfg} {ps : List Param} {s0 s1 : Storage α} {i : Nat}
    (h : DInv cfg ps s0 i s1) {j : Nat} (hj : j < i) : s1.ents[j]? = s0.ents[j]? := by
  rw [← List.getElem?_take_of_lt hj, h.ents, List.getElem?_take_of_lt hj]

theorem DInv.mono {cfg : Cfg} {ps : List Param} {s0 s1 : Storage α} {i i' : Nat}
    (h : DInv cfg ps s0 i s1) (hi : i' ≤ i) : DInv cfg ps s0 i' s1 where
  inv := h.inv
  le := Nat.le_trans hi h.le
  ents := by
    have := congrArg (List.take i') h.ents
    simpa [List.take_take, Nat.min_eq_left hi] using this
  rows := fun c j hj => h.rows c j (by omega)
  cols := h.cols

theorem DInv.write {cfg : Cfg} {ps : List Param} {s0 s1 : Storage α} {i : Nat}
    (h : DInv cfg ps s0 (i + 1) s1) (ws : List (Option α)) :
    DInv cfg ps s0 i (applyWrites s1 i ps ws) := by
  have hfr := applyWrites_frame i ps ws s1
  have h' := h.mono (Nat.le_succ i)
  exact {
    inv := applyWrites_inv h.inv _ _ _
    le := by rw [hfr.len]; exact h'.le
    ents := by rw [hfr.ents]; exact h'.ents
    rows := fun c j hj => by rw [hfr.rows c j (by simp; omega)]; exact h'.rows c j hj
    cols := h.cols.of_ncols hfr.ncols }

theorem DInv.destroy {cfg : Cfg} {ps : List Param} {s0 s1 s2 : Storage α} {i : Nat}
    (h : DInv cfg ps s0 i s1) (hi : i < s1.len) (hinv2 : Inv cfg s2)
    (hlen : s2.len = s1.len - 1) (hents : s2.ents = swapRemove s1.ents i)
    (hcols : s2.cols = s1.cols.map (fun c => swapRemove c i)) : DInv cfg ps s0 i s2 where
  inv := hinv2
  le := by omega
  ents := by rw [hents, swapRemove_take _ _ (by rw [h.inv.entsLen]; exact hi)]; exact h.ents
  rows := fun c j hj => by
    rw [hcols, cols_swapRemove_row h.inv hi (by omega) c, swapSrc, if_neg (by omega)]
    exact h.rows c j hj
  cols := h.cols.of_ncols (by rw [hcols, List.length_map])

/-- Relation between the storage `s1` at the start of a (sub-)run and the final storage `s'`,
`removed` being the handles destroyed in between, in order. -/
structure DRel (cfg : Cfg) (ps : List Param) (s1 s' : Storage α) (removed : List Ent) : Prop where
  /-- survivors and removed handles together are the handles at the start -/
  perm : (s'.ents ++ removed).Perm s1.ents
  /-- a survivor keeps its handle and, in every column not bound `&mut`, its cell -/
  assoc : ∀ (d : Nat) (e : Ent), s'.ents[d]? = some e → ∃ d0 : Nat, s1.ents[d0]? = some e
    ∧ ∀ (c : Nat), Param.comp c true ∉ ps → (s'.cols.getD c [])[d]? = (s1.cols.getD c [])[d0]?
  ncols : s'.cols.length = s1.cols.length
  capacity : s'.capacity = s1.capacity
  len : s'.len + removed.length = s1.len
  created : s'.created = s1.created
  /-- the `destroyed` event list grows by exactly the removed handles -/
  destroyed : s'.destroyed = if cfg.events then s1.destroyed ++ removed else s1.destroyed

theorem DRel.refl (cfg : Cfg) (ps : List Param) (s : Storage α) : DRel cfg ps s s [] :=
  ⟨by simp, fun d e h => ⟨d, h, fun _ _ => rfl⟩, rfl, rfl, rfl, rfl, by simp⟩

theorem DRel.trans {cfg : Cfg} {ps : List Param} {s1 s2 s3 : Storage α} {r1 r2 : List Ent}
    (h1 : DRel cfg ps s1 s2 r1) (h2 : DRel cfg ps s2 s3 r2) : DRel cfg ps s1 s3 (r1 ++ r2) where
  perm := by
    have a : (s3.ents ++ (r1 ++ r2)).Perm ((s3.ents ++ r2) ++ r1) := by
      rw [List.append_assoc]; exact List.Perm.append_left _ List.perm_append_comm
    exact a.trans ((h2.perm.append_right r1).trans h1.perm)
  assoc := fun d e hd => by
    obtain ⟨d1, hd1, hc1⟩ := h2.assoc d e hd
    obtain ⟨d0, hd0, hc0⟩ := h1.assoc d1 e hd1
    exact ⟨d0, hd0, fun c hc => (hc1 c hc).trans (hc0 c hc)⟩
  ncols := h2.ncols.trans h1.ncols
  capacity := h2.capacity.trans h1.capacity
  len := by have := h1.len; have := h2.len; simp only [List.length_append]; omega
  created := h2.created.trans h1.created
  destroyed := by rw [h2.destroyed, h1.destroyed]; split <;> simp

theorem DRel.write (cfg : Cfg) (ps : List Param) (s1 : Storage α) (i : Nat)
    (ws : List (Option α)) : DRel cfg ps s1 (applyWrites s1 i ps ws) [] := by
  have hfr := applyWrites_frame i ps ws s1
  exact {
    perm := by rw [hfr.ents]; simp
    assoc := fun d e hd => ⟨d, by rw [← hfr.ents]; exact hd, fun c hc => by
      simp only [List.getD_eq_getElem?_getD, hfr.cols c hc]⟩
    ncols := hfr.ncols
    capacity := hfr.capacity
    len := by simp [hfr.len]
    created := hfr.created
    destroyed := by simp [hfr.destroyed] }

theorem DRel.destroy {cfg : Cfg} (ps : List Param) {s1 s2 : Storage α} {i : Nat} {e : Ent}
    (hinv : Inv cfg s1) (he : s1.ents[i]? = some e)
    (hlen : s2.len = s1.len - 1) (hcap : s2.capacity = s1.capacity)
    (hents : s2.ents = swapRemove s1.ents i)
    (hcols : s2.cols = s1.cols.map (fun c => swapRemove c i))
    (hcr : s2.created = s1.created)
    (hde : s2.destroyed = if cfg.events then s1.destroyed ++ [e] else s1.destroyed) :
    DRel cfg ps s1 s2 [e] := by
  have hi : i < s1.len := hinv.ents_lt he
  exact {
    perm := by rw [hents]; exact swapRemove_append_perm _ _ _ he
    assoc := fun d e' hd => by
      rw [hents] at hd
      have hdlt : d < s1.ents.length - 1 := by
        have := (List.getElem?_eq_some_iff.mp hd).1
        rwa [swapRemove_length] at this
      rw [swapRemove_getElem?_src _ _ _ (by rw [hinv.entsLen]; exact hi) hdlt] at hd
      refine ⟨_, hd, fun c _ => ?_⟩
      rw [hcols, cols_swapRemove_row hinv hi (hinv.entsLen ▸ hdlt) c, hinv.entsLen]
    ncols := by rw [hcols]; simp
    capacity := hcap
    len := by simp [hlen]; omega
    created := hcr
    destroyed := hde }

/-- How a loop ended: a `LoopOut` other than `ub` without its payload (`OKind.out` puts it back),
so that the outcome of a run can be an index of `DFacts`. -/
inductive OKind where
  | done | stop | panic (m : String)
deriving DecidableEq

def OKind.out (k : OKind) (st : σ) (s : Storage α) : LoopOut σ α :=
  match k with
  | .done => .done st s
  | .stop => .stop st s
  | .panic m => .panic m st s

theorem OKind.out_log? {β : Type} (k : OKind) (st : σ) (log : List β) (s : Storage α) :
    (k.out (st, log) s).log? = some log := by
  cases k <;> rfl

/-- The loop was ended by one of the two version-overflow panics of `force_destroy`. -/
def OKind.overflow (k : OKind) : Prop :=
  k = .panic "slot version overflow" ∨ k = .panic "arch version overflow"

theorem OKind.not_overflow_done : ¬ OKind.overflow .done := by simp [OKind.overflow]
theorem OKind.not_overflow_stop : ¬ OKind.overflow .stop := by simp [OKind.overflow]
theorem OKind.not_overflow_closure : ¬ OKind.overflow (.panic "closure") := by simp [OKind.overflow]

/-- The call answered `Continue` or `ContinueDestroy`. -/
def Call.contLike (c : Call α Step4) : Bool :=
  match c.res with
  | some .cont | some .contDestroy => true
  | _ => false

/-- The call answered `ContinueDestroy` or `BreakDestroy`. -/
def Call.flagged (c : Call α Step4) : Bool :=
  match c.res with
  | some .contDestroy | some .brkDestroy => true
  | _ => false

/-- The visited entities whose call flagged them for destruction, in call order. -/
def flaggedEnts : List Ent → List (Call α Step4) → List Ent
  | e :: es, c :: cs => if c.flagged then e :: flaggedEnts es cs else flaggedEnts es cs
  | _, _ => []

/-- What ended the loop, in terms of the last recorded call. -/
def LastOk (k : OKind) (c : Call α Step4) : Prop :=
  match k with
  | .done => False
  | .stop => c.res = some .brk ∨ c.res = some .brkDestroy
  | .panic m => (m = "closure" ∧ c.res = none)
      ∨ ((m = "slot version overflow" ∨ m = "arch version overflow") ∧ c.flagged = true)

/-- Facts about one closure call: the dense index `idx` it visited, the storage `sj` it ran in
(the one passed to `bindArgs`), and the recorded call `c`. -/
structure StepOk (cfg : Cfg) (idA : Nat) (ps : List Param) (s0 : Storage α) (idx : Nat)
    (sj : Storage α) (c : Call α Step4) : Prop where
  inv : Inv cfg sj
  /-- the entity at `idx` is the one that was there in the initial storage, and the direct
  handle minted with the *current* version designates it -/
  ent : ∃ e : Ent, s0.ents[idx]? = some e ∧ sj.ents[idx]? = some e
      ∧ resolveDirect cfg sj idx sj.version = .ok (some (e.slot, idx)) sj
  /-- the recorded arguments are those bound in `sj` with the current version -/
  args : bindArgs idA sj sj.version idx ps = some c.args
  /-- … which are the handle and row `idx` of the initial storage -/
  args0 : bindArgs idA s0 sj.version idx ps = some c.args

/-- The entities at the visited positions, in the storages the calls ran in. -/
def visitedOf (tr : List (Nat × Storage α)) : List Ent := tr.filterMap (fun x => x.2.ents[x.1]?)

/-- What `destroyLoop_main` proves, by induction along the loop, of the run over `(0..i).rev()` that
starts in `s1` with `DInv cfg ps s0 i s1`: `tr` is its `destroyTrace` (index visited, storage the
call ran in), `new` the calls it recorded, `kind` how it ended, `s'` the final storage, `removed`
the handles destroyed, in order.  `destroyLoop_spec` and the C07 theorems are its fields read at
`s1 = s0`, `i = s0.len`. -/
structure DFacts (cfg : Cfg) (idA : Nat) (ps : List Param) (s0 : Storage α) (i : Nat)
    (s1 : Storage α) (tr : List (Nat × Storage α)) (new : List (Call α Step4)) (kind : OKind)
    (s' : Storage α) (removed : List Ent) : Prop where
  final : DInv cfg ps s0 (i - new.length) s'
  rel : DRel cfg ps s1 s' removed
  trLen : tr.length = new.length
  lenLe : new.length ≤ i
  idxs : tr.map (·.1) = (List.range i).reverse.take new.length
  steps : ∀ x ∈ tr.zip new, StepOk cfg idA ps s0 x.1.1 x.1.2 x.2
  doneAll : kind = .done → new.length = i ∧ ∀ c ∈ new, c.contLike = true
  notDone : kind ≠ .done →
    ∃ init c, new = init ++ [c] ∧ (∀ x ∈ init, x.contLike = true) ∧ LastOk kind c
  removedEq : (¬ kind.overflow → removed = flaggedEnts (visitedOf tr) new)
    ∧ (kind.overflow → ∃ x, removed ++ [x] = flaggedEnts (visitedOf tr) new)
  visited : visitedOf tr = (s0.ents.take i).reverse.take new.length
  ovf : kind.overflow → ∃ v, nextVer cfg v = none

theorem take_succ_reverse_take {β : Type} (l : List β) (i n : Nat) (e : β) (he : l[i]? = some e) :
    (l.take (i + 1)).reverse.take (n + 1) = e :: (l.take i).reverse.take n := by
  have : l.take (i + 1) = l.take i ++ [e] := by rw [List.take_add_one, he]; rfl
  rw [this]; simp

theorem DFacts.nil {cfg : Cfg} {idA : Nat} {ps : List Param} {s0 s1 : Storage α}
    (hD : DInv cfg ps s0 0 s1) : DFacts cfg idA ps s0 0 s1 [] [] .done s1 [] where
  final := hD
  rel := .refl _ _ _
  trLen := rfl
  lenLe := Nat.le_refl _
  idxs := rfl
  steps := by simp
  doneAll := fun _ => ⟨rfl, by simp⟩
  notDone := fun h => absurd rfl h
  removedEq := ⟨fun _ => rfl, fun h => absurd h OKind.not_overflow_done⟩
  visited := rfl
  ovf := fun h => absurd h OKind.not_overflow_done

theorem StepOk.ent0 {cfg : Cfg} {idA : Nat} {ps : List Param} {s0 sj : Storage α} {idx : Nat}
    {c : Call α Step4} {e : Ent} (h : StepOk cfg idA ps s0 idx sj c)
    (he : sj.ents[idx]? = some e) : s0.ents[idx]? = some e := by
  obtain ⟨e', h1, h2, _⟩ := h.ent
  rw [he] at h2; cases h2; exact h1

/-- A continuing call `c` at the top index `i`, in front of the facts `hrest` for the rest of the
run; `pre` is what that step removed. -/
theorem DFacts.cons {cfg : Cfg} {idA : Nat} {ps : List Param} {s0 s1 snext s' : Storage α}
    {i : Nat} {tr' : List (Nat × Storage α)} {new' : List (Call α Step4)} {kind : OKind}
    {removed' pre : List Ent} {c : Call α Step4} {e : Ent}
    (hstep : StepOk cfg idA ps s0 i s1 c) (he : s1.ents[i]? = some e)
    (hc : c.contLike = true) (hpre : pre = if c.flagged then [e] else [])
    (hrel : DRel cfg ps s1 snext pre)
    (hrest : DFacts cfg idA ps s0 i snext tr' new' kind s' removed') :
    DFacts cfg idA ps s0 (i + 1) s1 ((i, s1) :: tr') (c :: new') kind s' (pre ++ removed') := by
  have hvis : visitedOf ((i, s1) :: tr') = e :: visitedOf tr' := by simp [visitedOf, he]
  have hfl : flaggedEnts (e :: visitedOf tr') (c :: new') = pre ++ flaggedEnts (visitedOf tr') new' := by
    rw [hpre, flaggedEnts]; split <;> simp
  exact {
    final := by rw [List.length_cons, Nat.add_sub_add_right]; exact hrest.final
    rel := hrel.trans hrest.rel
    trLen := congrArg (· + 1) hrest.trLen
    lenLe := Nat.succ_le_succ hrest.lenLe
    idxs := by simp [List.range_succ, hrest.idxs]
    steps := List.forall_mem_cons.mpr ⟨hstep, hrest.steps⟩
    doneAll := fun hk =>
      ⟨congrArg (· + 1) (hrest.doneAll hk).1, List.forall_mem_cons.mpr ⟨hc, (hrest.doneAll hk).2⟩⟩
    notDone := fun hk => by
      obtain ⟨init, cl, h1, h2, h3⟩ := hrest.notDone hk
      exact ⟨c :: init, cl, by rw [h1]; rfl, List.forall_mem_cons.mpr ⟨hc, h2⟩, h3⟩
    removedEq := by
      rw [hvis, hfl]
      refine ⟨fun hk => by rw [hrest.removedEq.1 hk], fun hk => ?_⟩
      obtain ⟨x, hx⟩ := hrest.removedEq.2 hk
      exact ⟨x, by rw [← hx, List.append_assoc]⟩
    visited := by
      rw [hvis, hrest.visited, List.length_cons, take_succ_reverse_take _ _ _ _ (hstep.ent0 he)]
    ovf := hrest.ovf }

/-- The call `c` at the top index `i` ended the loop.  Either the loop did not end in a version
overflow and `removed` is the visited entity if `c` flagged it, or it did: then `c` flagged the
entity and nothing was removed. -/
theorem DFacts.last {cfg : Cfg} {idA : Nat} {ps : List Param} {s0 s1 s' : Storage α}
    {i : Nat} {kind : OKind} {removed : List Ent} {c : Call α Step4} {e : Ent}
    (hstep : StepOk cfg idA ps s0 i s1 c) (he : s1.ents[i]? = some e)
    (hfinal : DInv cfg ps s0 i s') (hrel : DRel cfg ps s1 s' removed)
    (hk : LastOk kind c)
    (hend : (¬ kind.overflow ∧ removed = if c.flagged then [e] else [])
      ∨ (kind.overflow ∧ removed = [] ∧ c.flagged = true ∧ ∃ v, nextVer cfg v = none)) :
    DFacts cfg idA ps s0 (i + 1) s1 [(i, s1)] [c] kind s' removed := by
  have hvis : visitedOf [(i, s1)] = [e] := by simp [visitedOf, he]
  have hfl : flaggedEnts [e] [c] = if c.flagged then [e] else [] := by
    rw [flaggedEnts]; split <;> simp [flaggedEnts]
  exact {
    final := by simpa using hfinal
    rel := hrel
    trLen := rfl
    lenLe := by simp
    idxs := by simp [List.range_succ]
    steps := List.forall_mem_singleton.mpr hstep
    doneAll := fun h => by subst h; exact absurd hk (by simp [LastOk])
    notDone := fun _ => ⟨[], c, rfl, by simp, hk⟩
    removedEq := by
      rw [hvis, hfl]
      refine ⟨fun h => hend.elim (·.2) fun g => absurd g.1 h, fun h => ?_⟩
      obtain ⟨_, h1, h2, _⟩ := hend.resolve_left fun g => g.1 h
      exact ⟨e, by rw [h1, h2]; simp⟩
    visited := by
      rw [hvis, List.length_singleton, take_succ_reverse_take _ _ _ _ (hstep.ent0 he)]; simp
    ovf := fun h => (hend.resolve_left fun g => g.1 h).2.2.2 }

theorem range_reverse_eq_cons {i idx : Nat} {rest : List Nat}
    (h : (List.range i).reverse = idx :: rest) : i = idx + 1 ∧ rest = (List.range idx).reverse := by
  cases i with
  | zero => cases h
  | succ i =>
    rw [List.range_succ, List.reverse_append, List.reverse_singleton, List.singleton_append] at h
    cases h; exact ⟨rfl, rfl⟩

/-- One step of `for idx in (0..i).rev()` under the loop invariant: what every case of
`destroyLoop_main` in which the closure is called starts from. -/
theorem DInv.step {cfg : Cfg} {idA : Nat} {ps : List Param} {s0 s : Storage α} {i idx : Nat}
    {rest : List Nat} {args : List (Arg α)} (hi : (List.range i).reverse = idx :: rest)
    (hD : DInv cfg ps s0 i s) (hb : bindArgs idA s s.version idx ps = some args) :
    i = idx + 1 ∧ rest = (List.range idx).reverse ∧ ∃ e, s.ents[idx]? = some e
      ∧ (∀ r, StepOk cfg idA ps s0 idx s ⟨args, r⟩)
      ∧ ∀ ws, DInv cfg ps s0 idx (applyWrites s idx ps ws)
          ∧ (applyWrites s idx ps ws).ents[idx]? = some e := by
  obtain ⟨rfl, rfl⟩ := range_reverse_eq_cons hi
  obtain ⟨e, he⟩ := hD.inv.ents_get hD.le
  have hlt := Nat.lt_succ_self idx
  refine ⟨rfl, rfl, e, he,
    fun r => ⟨hD.inv, ⟨e, ?_, he, resolveDirect_of_lt hD.inv he⟩, hb, ?_⟩,
    fun ws => ⟨hD.write ws, by rw [(applyWrites_frame idx ps ws s).ents]; exact he⟩⟩
  · rw [← hD.ents_lt hlt]; exact he
  · rw [← bindArgs_congr idA s s0 s.version idx (hD.ents_lt hlt) (fun c => hD.rows c idx hlt)]
    exact hb

theorem DInv.destroyEnt {cfg : Cfg} {ps : List Param} {s0 s : Storage α} {i : Nat} {e : Ent}
    (hD : DInv cfg ps s0 i s) (he : s.ents[i]? = some e) :
    (∃ row s2, destroyEnt cfg s e = .ok row s2 ∧ DInv cfg ps s0 i s2 ∧ DRel cfg ps s s2 [e])
    ∨ (∃ m, destroyEnt cfg s e = .panic m s
        ∧ (m = "slot version overflow" ∨ m = "arch version overflow")
        ∧ ∃ v, nextVer cfg v = none) := by
  rw [destroyEnt_eq, resolveEntity_of_mem hD.inv he, destroyAfter]
  rcases forceDestroy_outcome hD.inv he with ⟨row, s2, hok, r⟩ | ⟨hp, hn⟩ | ⟨hp, hn⟩
  · rw [hok]
    exact .inl ⟨_, s2, rfl, hD.destroy (hD.inv.ents_lt he) r.inv r.len r.ents r.cols,
      DRel.destroy ps hD.inv he r.len r.cap r.ents r.cols r.created r.destroyed⟩
  · rw [hp]; exact .inr ⟨_, rfl, .inl rfl, _, hn⟩
  · rw [hp]; exact .inr ⟨_, rfl, .inr rfl, _, hn⟩

theorem destroyLoop_main {cfg : Cfg} (idA : Nat) (ps : List Param) (f : Closure σ α Step4)
    (s0 : Storage α) :
    ∀ (idxs : List Nat) (t : σ × List (Call α Step4)) (s1 : Storage α) (i : Nat),
      (List.range i).reverse = idxs → DInv cfg ps s0 i s1 →
      ∃ (kind : OKind) (t' : σ) (new : List (Call α Step4)) (s' : Storage α) (removed : List Ent),
        destroyLoop cfg idA ps (recR f) idxs t s1 = kind.out (t', t.2 ++ new) s'
        ∧ DFacts cfg idA ps s0 i s1 (destroyTrace cfg idA ps (recR f) idxs t s1)
            new kind s' removed := by
  apply destroyLoop_induct cfg idA ps (recR f) (motive := fun idxs t s1 o tr =>
    ∀ i, (List.range i).reverse = idxs → DInv cfg ps s0 i s1 →
      ∃ (kind : OKind) (t' : σ) (new : List (Call α Step4)) (s' : Storage α) (removed : List Ent),
        o = kind.out (t', t.2 ++ new) s' ∧ DFacts cfg idA ps s0 i s1 tr new kind s' removed)
  case nil =>
    intro t s1 i hi hD
    cases i with
    | zero => exact ⟨.done, t.1, [], s1, [], by simp [OKind.out], DFacts.nil hD⟩
    | succ i => simp [List.range_succ] at hi
  case invalid => intro _ _ _ s hv i _ hD; rw [slicesValid_of_inv hD.inv] at hv; cases hv
  case oob =>
    intro idx rest t s hv hb i hi hD
    obtain ⟨rfl, rfl⟩ := range_reverse_eq_cons hi
    obtain ⟨_, hb'⟩ := bindArgs_isSome hD.inv idA s.version hD.le ps hD.cols.comp_lt
    rw [hb] at hb'; cases hb'
  case fpanic =>
    intro idx rest t s args t' ws hv hb hg i hi hD
    obtain ⟨rfl, rfl, e, he, hstep, hw⟩ := hD.step hi hb
    exact ⟨.panic "closure", t'.1, [⟨args, none⟩], _, [], by rw [← recR_panic hg]; rfl,
      .last (hstep none) he (hw ws).1 (.write cfg ps s idx ws) (.inl ⟨rfl, rfl⟩)
        (.inl ⟨OKind.not_overflow_closure, rfl⟩)⟩
  case brk =>
    intro idx rest t s args t' ws hv hb hg i hi hD
    obtain ⟨rfl, rfl, e, he, hstep, hw⟩ := hD.step hi hb
    exact ⟨.stop, t'.1, [⟨args, some .brk⟩], _, [], by rw [← recR_ret hg]; rfl,
      .last (hstep _) he (hw ws).1 (.write cfg ps s idx ws) (.inl rfl)
        (.inl ⟨OKind.not_overflow_stop, rfl⟩)⟩
  case cont =>
    intro idx rest t s args t' ws hv hb hg ih i hi hD
    obtain ⟨rfl, rfl, e, he, hstep, hw⟩ := hD.step hi hb
    obtain ⟨kind, t'', new, s', removed, hrun, hrest⟩ := ih idx rfl (hw ws).1
    exact ⟨kind, t'', ⟨args, some .cont⟩ :: new, s', removed,
      by rw [hrun, recR_ret hg, List.append_assoc]; rfl,
      .cons (hstep (some .cont)) he rfl rfl (.write cfg ps s idx ws) hrest⟩
  case gone =>
    intro idx rest t s args t' ws r hv hb hg hr he' i hi hD
    obtain ⟨_, _, e, _, _, hw⟩ := hD.step hi hb
    rw [(hw ws).2] at he'; cases he'
  case dub =>
    intro idx rest t s args t' ws r e m hv hb hg hr he' hde i hi hD
    obtain ⟨rfl, rfl, _, _, _, hw⟩ := hD.step hi hb
    rcases (hw ws).1.destroyEnt he' with ⟨_, _, g, _⟩ | ⟨_, g, _⟩ <;>
      rw [g] at hde <;> cases hde
  case dpanic =>
    intro idx rest t s args t' ws r e m s2 hv hb hg hr he' hde i hi hD
    obtain ⟨rfl, rfl, e0, he, hstep, hw⟩ := hD.step hi hb
    rcases (hw ws).1.destroyEnt he' with ⟨_, _, g, _⟩ | ⟨_, g, hm, hn⟩ <;>
      rw [g] at hde <;> cases hde
    have hov : OKind.overflow (.panic m) := hm.imp (congrArg _) (congrArg _)
    have hfl : Call.flagged (⟨args, some r⟩ : Call α Step4) = true := by
      rcases hr with rfl | rfl <;> rfl
    exact ⟨.panic m, t'.1, [⟨args, some r⟩], _, [], by rw [← recR_ret hg]; rfl,
      .last (hstep _) he (hw ws).1 (.write cfg ps s idx ws) (.inr ⟨hm, hfl⟩)
        (.inr ⟨hov, rfl, hfl, hn⟩)⟩
  case dstop =>
    intro idx rest t s args t' ws e b s2 hv hb hg he' hde i hi hD
    obtain ⟨rfl, rfl, e0, he, hstep, hw⟩ := hD.step hi hb
    cases he'.symm.trans (hw ws).2
    rcases (hw ws).1.destroyEnt he' with ⟨_, _, g, hD2, hrel⟩ | ⟨_, g, _⟩ <;>
      rw [g] at hde <;> cases hde
    exact ⟨.stop, t'.1, [⟨args, some .brkDestroy⟩], _, [e], by rw [← recR_ret hg]; rfl,
      .last (hstep _) he hD2 ((DRel.write cfg ps s idx ws).trans hrel) (.inr rfl)
        (.inl ⟨OKind.not_overflow_stop, rfl⟩)⟩
  case dcont =>
    intro idx rest t s args t' ws e b s2 hv hb hg he' hde ih i hi hD
    obtain ⟨rfl, rfl, e0, he, hstep, hw⟩ := hD.step hi hb
    cases he'.symm.trans (hw ws).2
    rcases (hw ws).1.destroyEnt he' with ⟨_, _, g, hD2, hrel⟩ | ⟨_, g, _⟩ <;>
      rw [g] at hde <;> cases hde
    obtain ⟨kind, t'', new, s', removed, hrun, hrest⟩ := ih idx rfl hD2
    exact ⟨kind, t'', ⟨args, some .contDestroy⟩ :: new, s', e :: removed,
      by rw [hrun, recR_ret hg, List.append_assoc]; rfl,
      .cons (hstep (some .contDestroy)) he rfl rfl ((DRel.write cfg ps s idx ws).trans hrel)
        hrest⟩

theorem flaggedEnts_take : ∀ (es : List Ent) (cs : List (Call α Step4)),
    flaggedEnts (es.take cs.length) cs = flaggedEnts es cs
  | [], cs => by simp
  | e :: es, [] => by simp [flaggedEnts]
  | e :: es, c :: cs => by
    simp only [List.length_cons, List.take_succ_cons, flaggedEnts, flaggedEnts_take es cs]

theorem range_reverse_take_getElem? (n k j : Nat) (hk : k ≤ n) (hj : j < k) :
    ((List.range n).reverse.take k)[j]? = some (n - 1 - j) := by
  rw [List.getElem?_take, if_pos hj, List.getElem?_reverse (by simp; omega)]
  simp only [List.length_range]
  rw [List.getElem?_range (by omega)]

theorem DInv.init {cfg : Cfg} {s : Storage α} (h : Inv cfg s) {ps : List Param}
    (hps : ColsExist s ps) : DInv cfg ps s s.len s :=
  ⟨h, Nat.le_refl _, rfl, fun _ _ _ => rfl, hps⟩

theorem DFacts.step_at {cfg : Cfg} {idA : Nat} {ps : List Param} {s0 s1 s' : Storage α} {i : Nat}
    {tr : List (Nat × Storage α)} {new : List (Call α Step4)} {kind : OKind} {removed : List Ent}
    (hF : DFacts cfg idA ps s0 i s1 tr new kind s' removed) {j : Nat} {x : Nat × Storage α}
    {c : Call α Step4} (hx : tr[j]? = some x) (hc : new[j]? = some c) :
    StepOk cfg idA ps s0 x.1 x.2 c :=
  hF.steps (x, c) (List.mem_of_getElem? (i := j) (List.getElem?_zip_eq_some.mpr ⟨hx, hc⟩))

/-- **C07.**  `ecs_iter_destroy!` over one archetype satisfying the invariant, any closure,
overflow panics included (a panic ends the loop like a break); `D₀` is `s.ents`:

* the outcome is `.done`, `.stop` or `.panic` — never UB — and the invariant holds again;
* the closure is called on the entities alive at loop start in reverse dense order
  (`visited = D₀.reverse.take (number of calls)`): each at most once, and exactly once when the
  loop runs to the end (`.done`: number of calls `= len`);
* call `j` visits dense index `len-1-j` of the storage `sj` it runs in; `sj` satisfies the
  invariant, holds there the entity that was there initially, its arguments are those bound in
  `sj` with `sj`'s current version — equal to the handle and row of the *initial* storage —
  and the minted direct handle `(len-1-j, sj.version)` resolves to it (`StepOk`);
* every call but the last answered `Continue`/`ContinueDestroy`; unless `.done`, the loop
  stopped at the last recorded call, which answered `Break`/`BreakDestroy`, or panicked, or
  was flagged and hit a version overflow (`LastOk`);
* the removed entities are exactly the flagged ones: `(s'.ents ++ removed).Perm D₀` with
  `removed = flaggedEnts D₀.reverse log` (on an overflow panic the last flagged entity was
  *not* removed: `removed ++ [x] = flaggedEnts …`);
* `DRel`: survivors keep their handle and their cells in columns not bound `&mut`, the
  `destroyed` events are exactly `removed`, capacity and column count unchanged;
* `DInv`: the unvisited prefix (after an early stop) is untouched. -/
theorem destroyLoop_spec {cfg : Cfg} {s : Storage α} (h : Inv cfg s) (idA : Nat)
    {ps : List Param} (hps : ColsExist s ps) (f : Closure σ α Step4) (st : σ) :
    ∃ (kind : OKind) (t' : σ) (log : List (Call α Step4)) (s' : Storage α) (removed : List Ent),
      destroyLoop cfg idA ps (recR f) (List.range s.len).reverse (st, []) s
          = kind.out (t', log) s'
      ∧ Inv cfg s'
      ∧ log.length ≤ s.len
      ∧ visitedOf (destroyTrace cfg idA ps (recR f) (List.range s.len).reverse (st, []) s)
          = s.ents.reverse.take log.length
      ∧ (∀ j c, log[j]? = some c → ∃ sj,
          (destroyTrace cfg idA ps (recR f) (List.range s.len).reverse (st, []) s)[j]?
            = some (s.len - 1 - j, sj)
          ∧ StepOk cfg idA ps s (s.len - 1 - j) sj c)
      ∧ (kind = .done → log.length = s.len ∧ ∀ c ∈ log, c.contLike = true)
      ∧ (kind ≠ .done →
          ∃ init c, log = init ++ [c] ∧ (∀ x ∈ init, x.contLike = true) ∧ LastOk kind c)
      ∧ (s'.ents ++ removed).Perm s.ents
      ∧ (¬ kind.overflow → removed = flaggedEnts s.ents.reverse log)
      ∧ (kind.overflow → (∃ x, removed ++ [x] = flaggedEnts s.ents.reverse log)
          ∧ ∃ v, nextVer cfg v = none)
      ∧ DRel cfg ps s s' removed
      ∧ DInv cfg ps s (s.len - log.length) s' := by
  obtain ⟨kind, t', new, s', removed, hrun, hF⟩ :=
    destroyLoop_main idA ps f s _ (st, []) s s.len rfl (DInv.init h hps)
  generalize destroyTrace cfg idA ps (recR f) (List.range s.len).reverse (st, []) s = tr at hF ⊢
  have htake : s.ents.take s.len = s.ents := by rw [← h.entsLen, List.take_length]
  have hvis := hF.visited
  rw [htake] at hvis
  have hrem := hF.removedEq
  rw [hvis, flaggedEnts_take] at hrem
  refine ⟨kind, t', new, s', removed, by simpa using hrun, hF.final.inv, hF.lenLe, hvis, ?_,
    hF.doneAll, hF.notDone, hF.rel.perm, hrem.1, fun hk => ⟨hrem.2 hk, hF.ovf hk⟩, hF.rel,
    hF.final⟩
  intro j c hj
  have hjn : j < new.length := (List.getElem?_eq_some_iff.mp hj).1
  obtain ⟨x, hx⟩ : ∃ x, tr[j]? = some x := ⟨_, List.getElem?_eq_getElem (hF.trLen ▸ hjn)⟩
  have hx1 : x.1 = s.len - 1 - j := by
    have := congrArg (fun l => l[j]?) hF.idxs
    simp only [List.getElem?_map, hx, Option.map_some,
      range_reverse_take_getElem? s.len new.length j hF.lenLe hjn] at this
    exact Option.some.inj this
  exact ⟨x.2, by rw [hx, ← hx1], hx1 ▸ hF.step_at hx hj⟩

/-- With `wrapping_version` (no overflow possible) the removed entities are exactly the
flagged ones, whatever the outcome. -/
theorem destroyLoop_spec_wrapping {cfg : Cfg} {s : Storage α} (h : Inv cfg s) (idA : Nat)
    {ps : List Param} (hps : ColsExist s ps) (f : Closure σ α Step4) (st : σ)
    (hwrap : cfg.wrapping = true) :
    ∃ (kind : OKind) (t' : σ) (log : List (Call α Step4)) (s' : Storage α),
      destroyLoop cfg idA ps (recR f) (List.range s.len).reverse (st, []) s
          = kind.out (t', log) s'
      ∧ (kind = .done ∨ kind = .stop ∨ kind = .panic "closure")
      ∧ (s'.ents ++ flaggedEnts s.ents.reverse log).Perm s.ents := by
  obtain ⟨kind, t', log, s', removed, hrun, _, _, _, _, _, hnotDone, hperm, hrem, hovf, _⟩ :=
    destroyLoop_spec h idA hps f st
  have hno : ¬ kind.overflow := by
    intro hk
    obtain ⟨_, v, hv⟩ := hovf hk
    obtain ⟨_, hv'⟩ := nextVer_wrapping_some hwrap v
    rw [hv'] at hv; cases hv
  refine ⟨kind, t', log, s', hrun, ?_, by rw [← hrem hno]; exact hperm⟩
  cases kind with
  | done => exact .inl rfl
  | stop => exact .inr (.inl rfl)
  | panic m =>
    obtain ⟨_, c, _, _, hl⟩ := hnotDone (by simp)
    rcases hl with ⟨hm, _⟩ | ⟨hm, _⟩
    · subst hm; exact .inr (.inr rfl)
    · exact absurd (hm.imp (congrArg _) (congrArg _)) hno

/-- **C07.**  At every closure call of `ecs_iter_destroy!`, in the
storage `x.2` the closure runs in (the one passed to `bindArgs`, see `destroyTrace`), the
direct handle minted for the visited dense index `x.1` with the version read *at that step*
is accepted by `resolveDirect` and designates the visited entity, which is the entity that
was at that index when the loop started. -/
theorem minted_direct_designates {cfg : Cfg} {s : Storage α} (h : Inv cfg s) (idA : Nat)
    {ps : List Param} (hps : ColsExist s ps) (f : Closure σ α Step4) (st : σ) :
    ∀ x ∈ destroyTrace cfg idA ps f (List.range s.len).reverse st s,
      Inv cfg x.2 ∧ ∃ visited : Ent, s.ents[x.1]? = some visited ∧ x.2.ents[x.1]? = some visited
        ∧ resolveDirect cfg x.2 x.1 x.2.version = .ok (some (visited.slot, x.1)) x.2 := by
  intro x hx
  rw [← destroyTrace_sim Prod.fst (recR f) f (recR_proj f) cfg idA ps _ (st, [])] at hx
  obtain ⟨kind, t', new, s', removed, hrun, hF⟩ :=
    destroyLoop_main idA ps f s _ (st, []) s s.len rfl (DInv.init h hps)
  obtain ⟨j, hj⟩ := List.getElem?_of_mem hx
  have hs := hF.step_at hj
    (List.getElem?_eq_getElem (hF.trLen ▸ (List.getElem?_eq_some_iff.mp hj).1))
  exact ⟨hs.inv, hs.ent⟩

/-- The arguments the closure receives at a call are the ones bound in the storage the call
runs in, with that storage's version (so a `&EntityDirect` parameter carries exactly the handle
of `minted_direct_designates`). -/
theorem destroyLoop_args_of_trace {cfg : Cfg} {s : Storage α} (h : Inv cfg s) (idA : Nat)
    {ps : List Param} (hps : ColsExist s ps) (f : Closure σ α Step4) (st : σ) :
    ∃ log, (destroyLoop cfg idA ps (recR f) (List.range s.len).reverse (st, []) s).log? = some log
      ∧ (destroyTrace cfg idA ps f (List.range s.len).reverse st s).map
          (fun x => bindArgs idA x.2 x.2.version x.1 ps) = log.map (fun c => some c.args) := by
  rw [← destroyTrace_sim Prod.fst (recR f) f (recR_proj f) cfg idA ps _ (st, [])]
  obtain ⟨kind, t', new, s', removed, hrun, hF⟩ :=
    destroyLoop_main idA ps f s _ (st, []) s s.len rfl (DInv.init h hps)
  exact ⟨new, by rw [hrun, OKind.out_log?]; rfl,
    map_eq_map_of_getElem? hF.trLen fun j x c hx hc => (hF.step_at hx hc).args⟩

theorem destroyLoop_shape (cfg : Cfg) (idA : Nat) (ps : List Param) (f : Closure σ α Step4) :
    ∀ (idxs : List Nat) (t : σ × List (Call α Step4)) (s : Storage α) (log : List (Call α Step4)),
      (destroyLoop cfg idA ps (recR f) idxs t s).log? = some log →
      ∃ new, log = t.2 ++ new ∧ ContPrefix (fun c => c.contLike = true) new
        ∧ ∀ t' s', destroyLoop cfg idA ps (recR f) idxs t s = .done t' s' →
            ∀ c ∈ new, c.contLike = true := by
  apply destroyLoop_induct cfg idA ps (recR f) (motive := fun _ t _ o _ =>
    ∀ log, o.log? = some log → ∃ new, log = t.2 ++ new ∧ ContPrefix (fun c => c.contLike = true) new
      ∧ ∀ t' s', o = .done t' s' → ∀ c ∈ new, c.contLike = true)
  case nil | oob =>
    intros; rename_i h; cases h
    exact ⟨[], (List.append_nil _).symm, .nil _, fun _ _ _ _ hc => absurd hc List.not_mem_nil⟩
  case invalid | dub => intros; rename_i h; exact nomatch h
  case fpanic =>
    intro _ _ _ _ _ _ _ _ _ hg _ h; cases h; exact ⟨_, recR_panic hg, .single _ _, fun _ _ ho => nomatch ho⟩
  case brk | gone | dpanic | dstop =>
    intros; rename_i h; cases h; exact ⟨_, recR_ret ‹_›, .single _ _, fun _ _ ho => nomatch ho⟩
  case cont | dcont =>
    intros; rename_i ih _ h
    obtain ⟨new, h1, h2, h3⟩ := ih _ h
    have ht := recR_ret ‹recR f _ _ = _›
    exact ⟨_ :: new, by rw [h1, ht, List.append_assoc]; rfl, h2.cons rfl,
      fun t' s' ho => List.forall_mem_cons.mpr ⟨rfl, h3 t' s' ho⟩⟩

theorem iterDestroyQuery_shape (cfg : Cfg) (f : Closure σ α Step4) (q : Query)
    (t : σ × List (Call α Step4)) (w : World α) (log : List (Call α Step4)) :
      (iterDestroyQuery cfg (recR f) q t w).log? = some log →
      ∃ new, log = t.2 ++ new ∧ ContPrefix (fun c => c.contLike = true) new := by
  fun_induction iterDestroyQuery cfg (recR f) q t w with
  | case1 => intro h; cases h; exact ⟨[], (List.append_nil _).symm, .nil _⟩
  | case2 | case6 => nofun
  | case3 qa _ t w s _ t' s' ho ih =>
    intro h
    obtain ⟨new1, h1, _, hc1⟩ := destroyLoop_shape cfg _ _ f _ t s t'.2 (by rw [ho]; rfl)
    obtain ⟨new2, hlog, hcp⟩ := ih h
    exact ⟨new1 ++ new2, by rw [hlog, h1, List.append_assoc], .append (hc1 t' s' ho) hcp⟩
  | case4 qa _ t w s _ t' s' ho | case5 qa _ t w s _ _ t' s' ho =>
    intro h
    obtain ⟨new1, h1, hc1, _⟩ := destroyLoop_shape cfg _ _ f _ t s t'.2 (by rw [ho]; rfl)
    exact ⟨new1, (Option.some.inj h).symm.trans h1, hc1⟩

/-- `Gecs.destroyLoop_not_ub` at the index list of the macro; `hps` is not needed for it (a
missing column is a panic, `destroyLoop_bad_col`). -/
theorem destroyLoop_not_ub {cfg : Cfg} {s : Storage α} (h : Inv cfg s) (idA : Nat)
    {ps : List Param} (hps : ColsExist s ps) (f : Closure σ α Step4) (st : σ) (m : String) :
    destroyLoop cfg idA ps f (List.range s.len).reverse st s ≠ .ub m :=
  Gecs.destroyLoop_not_ub h idA ps f _ st m

theorem QueryOk.archsIn {w : World α} {q : Query} (hq : QueryOk w q) :
    QArchsIn w.archs.length q :=
  fun qa hqa => let ⟨_, hs, _⟩ := hq qa hqa; (List.getElem?_eq_some_iff.mp hs).1

theorem iterQuery_not_ub {cfg : Cfg} {w : World α} (hw : WInv cfg w) {q : Query}
    (hq : QueryOk w q) (f : Closure σ α Step) (st : σ) (m : String) :
    iterQuery cfg f q st w ≠ .ub m :=
  QOut.sat_not_ub (iterQuery_spec hw f q st hq.archsIn) m

theorem iterDestroyQuery_not_ub {cfg : Cfg} {w : World α} (hw : WInv cfg w) {q : Query}
    (hq : QueryOk w q) (f : Closure σ α Step4) (st : σ) (m : String) :
    iterDestroyQuery cfg f q st w ≠ .ub m :=
  QOut.sat_not_ub (iterDestroyQuery_spec hw f q st hq.archsIn) m

/-- Without `ColsExist`, as in `iterLoop_bad_col`: the first step fails with "index out of
bounds"; the closure is never called. -/
theorem destroyLoop_bad_col {cfg : Cfg} {s : Storage α} (h : Inv cfg s) (idA : Nat)
    (ps : List Param) (f : Closure σ α Step4) (st : σ) (hlen : 0 < s.len)
    (hbad : ∃ p ∈ ps, ∃ (c : Nat) (m : Bool), p = .comp c m ∧ s.cols.length ≤ c) :
    destroyLoop cfg idA ps f (List.range s.len).reverse st s
      = .panic "index out of bounds" st s := by
  obtain ⟨n, hn⟩ : ∃ n, s.len = n + 1 := ⟨s.len - 1, by omega⟩
  rw [hn, List.range_succ, List.reverse_append, List.reverse_singleton, List.singleton_append,
    destroyLoop, slicesValid_of_inv h, if_pos rfl, bindArgs_bad_col idA s s.version n hbad]

/-- `destroyLoop` with defect F2 of recatek/gecs (DESIGN.md §7): the archetype version is read
once, *before* the loop, and that stale value is used to mint the direct handles.  The same
defect as a variant of the extracted loop template: `f2Template`, Lemmas/GenLoops.lean. -/
def destroyLoopStale (cfg : Cfg) (idA : Nat) (ps : List Param) (f : Closure σ α Step4)
    (version : Nat) : List Nat → σ → Storage α → LoopOut σ α
  | [], st, s => .done st s
  | idx :: rest, st, s =>
    if slicesValid cfg s then
      match bindArgs idA s version idx ps with
      | none => .panic "index out of bounds" st s
      | some args =>
        match f st args with
        | .panic st' ws => .panic "closure" st' (applyWrites s idx ps ws)
        | .ret st' ws r =>
          let s1 := applyWrites s idx ps ws
          match r with
          | .cont => destroyLoopStale cfg idA ps f version rest st' s1
          | .brk => .stop st' s1
          | .contDestroy | .brkDestroy =>
            match s1.ents[idx]? with
            | none => .panic "index out of bounds" st' s1
            | some e =>
              match destroyEnt cfg s1 e with
              | .ok _ s2 =>
                if r = .brkDestroy then .stop st' s2
                else destroyLoopStale cfg idA ps f version rest st' s2
              | .panic m s2 => .panic m st' s2
              | .ub m => .ub m
    else .ub "get_all_slices_mut: data not valid up to len"

/-- The storages the calls of `destroyLoopStale` run in (cf. `destroyTrace`). -/
def destroyTraceStale (cfg : Cfg) (idA : Nat) (ps : List Param) (f : Closure σ α Step4)
    (version : Nat) : List Nat → σ → Storage α → List (Nat × Storage α)
  | [], _, _ => []
  | idx :: rest, st, s =>
    if slicesValid cfg s then
      match bindArgs idA s version idx ps with
      | none => []
      | some args =>
        (idx, s) ::
          (match f st args with
          | .panic _ _ => []
          | .ret st' ws r =>
            let s1 := applyWrites s idx ps ws
            match r with
            | .cont => destroyTraceStale cfg idA ps f version rest st' s1
            | .brk => []
            | .contDestroy | .brkDestroy =>
              match s1.ents[idx]? with
              | none => []
              | some e =>
                match destroyEnt cfg s1 e with
                | .ok _ s2 =>
                  if r = .brkDestroy then [] else destroyTraceStale cfg idA ps f version rest st' s2
                | .panic _ _ => []
                | .ub _ => [])
    else []

namespace LoopsEx
open StorageEx

/-- Three live entities, one column. -/
def triEx : Storage Nat :=
  ⟨1, 3, 3, .freeEnd, [⟨.data 0, 1⟩, ⟨.data 1, 1⟩, ⟨.data 2, 1⟩], [⟨0, 1⟩, ⟨1, 1⟩, ⟨2, 1⟩],
    [[10, 11, 12]], [], []⟩

theorem triEx_inv : Inv cfgEx triEx := (invCheck_iff _ _).mp (by decide)

/-- Parameters `(&Entity<A>, &EntityDirect<A>, &mut C0)`. -/
def psEx : List Param := [.ent, .dir, .comp 0 true]

theorem psEx_cols : ColsExist triEx psEx := by
  intro p hp c m hpc
  simp only [psEx, List.mem_cons, List.not_mem_nil, or_false] at hp
  rcases hp with rfl | rfl | rfl <;> cases hpc
  decide

/-- Counts its calls; decisions `[contDestroy, cont, brkDestroy]`; writes nothing. -/
def fDestroyEx : Closure Nat Nat Step4 := fun n _ =>
  .ret (n + 1) [] (match n with | 0 => .contDestroy | 1 => .cont | _ => .brkDestroy)

/-- Counts its calls; destroys at the first call, then continues. -/
def fDestroyThenCont : Closure Nat Nat Step4 := fun n _ =>
  .ret (n + 1) [] (match n with | 0 => .contDestroy | _ => .cont)

/-- Counts its calls; writes `100 + n` to the `&mut` column; breaks at the second call. -/
def fIterEx : Closure Nat Nat Step := fun n _ =>
  .ret (n + 1) [none, none, some (100 + n)] (if n = 1 then .brk else .cont)

/-- The run itself: two calls, each with its own handle, the direct handle `(d, version 1)`
and its own cell (`10`, `11` — the values of the initial storage, although call 0 wrote `100`
into row 0 before call 1 ran); the second call answered `Break` and is the last; only the
`&mut` column changed, rows 0 and 1. -/
example :
    iterLoop 7 psEx (recR fIterEx) triEx.version (List.range triEx.len) (0, []) triEx
      = .stop (2, [⟨[.ent (mkKey 0 7 1), .dir (mkKey 0 7 1), .comp true 10], some .cont⟩,
                   ⟨[.ent (mkKey 1 7 1), .dir (mkKey 1 7 1), .comp true 11], some .brk⟩])
          { triEx with cols := [[100, 101, 12]] } := rfl

/-- A closure that never breaks visits all three entities. -/
example :
    (iterLoop 7 [.ent] (recR (fun (n : Nat) _ => .ret (n + 1) [] .cont)) triEx.version
        (List.range triEx.len) (0, []) triEx).log?
      = some [⟨[.ent (mkKey 0 7 1)], some .cont⟩, ⟨[.ent (mkKey 1 7 1)], some .cont⟩,
              ⟨[.ent (mkKey 2 7 1)], some .cont⟩] := rfl

/-- A column the storage does not have: "index out of bounds" before any call. -/
example : iterLoop 7 [.comp 3 false] fIterEx triEx.version (List.range triEx.len) 0 triEx
    = .panic "index out of bounds" 0 triEx :=
  iterLoop_bad_col 7 _ fIterEx _ 0 triEx (by decide) ⟨_, List.mem_cons_self, 3, false, rfl, by decide⟩

/-- A two-archetype world (`triEx` twice, ids 7 and 9). -/
def worldEx : World Nat := ⟨[7, 9], [triEx, triEx]⟩

theorem worldEx_inv : WInv cfgEx worldEx :=
  ⟨rfl, by decide, by decide, by
    intro s hs
    simp only [worldEx, List.mem_cons, List.not_mem_nil, or_false, or_self] at hs
    subst hs; exact triEx_inv⟩

def queryEx : Query := [⟨0, psEx⟩, ⟨1, psEx⟩]

theorem queryEx_ok : QueryOk worldEx queryEx := by
  intro qa hqa
  simp only [queryEx, List.mem_cons, List.not_mem_nil, or_false] at hqa
  rcases hqa with rfl | rfl
  · exact ⟨triEx, rfl, psEx_cols⟩
  · exact ⟨triEx, rfl, psEx_cols⟩

/-- `Break` at the second call (in the first archetype): two calls in total, the second
archetype is never visited. -/
example : ((iterQuery cfgEx (recR fIterEx) queryEx (0, []) worldEx).log?.map List.length)
    = some 2 := rfl

/-- Never breaking: `3 + 3` calls. -/
example : ((iterQuery cfgEx (recR (fun (n : Nat) _ => .ret (n + 1) [] .cont)) queryEx (0, [])
    worldEx).log?.map List.length) = some ((queryEx.map (fun qa => archLen worldEx qa.a)).sum) := rfl

/-- The hypotheses of `destroyLoop_spec` hold on `triEx`. -/
example := destroyLoop_spec triEx_inv 7 psEx_cols fDestroyEx 0

/-- The run itself.  Call 0 visits dense index 2 (entity `(2,1)`) and destroys it: the
archetype version becomes 2.  Call 1 visits index 1 (entity `(1,1)`), its direct handle
carries the *new* version 2.  Call 2 visits index 0 (entity `(0,1)`), destroys it — the last
entity `(1,1)` moves into position 0 — and stops.  Survivor: `(1,1)` with its cell `11`;
`destroyed` events: `(2,1)`, `(0,1)`. -/
example :
    destroyLoop cfgEx 7 psEx (recR fDestroyEx) (List.range triEx.len).reverse (0, []) triEx
      = .stop (3, [⟨[.ent (mkKey 2 7 1), .dir (mkKey 2 7 1), .comp true 12], some .contDestroy⟩,
                   ⟨[.ent (mkKey 1 7 1), .dir (mkKey 1 7 2), .comp true 11], some .cont⟩,
                   ⟨[.ent (mkKey 0 7 1), .dir (mkKey 0 7 2), .comp true 10], some .brkDestroy⟩])
          ⟨3, 1, 3, .free 0, [⟨.free 2, 2⟩, ⟨.data 0, 1⟩, ⟨.freeEnd, 2⟩], [⟨1, 1⟩], [[11]], [],
            [⟨2, 1⟩, ⟨0, 1⟩]⟩ := rfl

/-- The flagged entities of that run are the two removed ones. -/
example : flaggedEnts triEx.ents.reverse
    [(⟨[], some .contDestroy⟩ : Call Nat Step4), ⟨[], some .cont⟩, ⟨[], some .brkDestroy⟩]
      = [⟨2, 1⟩, ⟨0, 1⟩] := rfl

example : (([⟨1, 1⟩] : List Ent) ++ ([⟨2, 1⟩, ⟨0, 1⟩] : List Ent)).Perm triEx.ents := by decide

/-- Overflow: in a non-wrapping configuration with `vmax = 1` the first flagged destroy
panics; nothing is removed although the call was flagged. -/
def cfgOvf : Cfg := ⟨8, 1, false, true, true⟩

theorem triEx_inv_ovf : Inv cfgOvf triEx :=
  (invCheck_iff _ _).mp (by decide)

example := destroyLoop_spec triEx_inv_ovf 7 psEx_cols fDestroyEx 0

example :
    destroyLoop cfgOvf 7 psEx (recR fDestroyEx) (List.range triEx.len).reverse (0, []) triEx
      = .panic "slot version overflow"
          (1, [⟨[.ent (mkKey 2 7 1), .dir (mkKey 2 7 1), .comp true 12], some .contDestroy⟩])
          triEx := rfl

/-- The whole query: `BreakDestroy` at the third call ends it; the second archetype is never
visited. -/
example : ((iterDestroyQuery cfgEx (recR fDestroyEx) queryEx (0, []) worldEx).log?.map
    List.length) = some 3 := rfl

example (m : String) : iterDestroyQuery cfgEx fDestroyEx queryEx 0 worldEx ≠ .ub m :=
  iterDestroyQuery_not_ub worldEx_inv queryEx_ok fDestroyEx 0 m

/-- `minted_direct_designates` on the run above. -/
example := minted_direct_designates triEx_inv 7 psEx_cols fDestroyEx 0

/-- The storage the second call runs in. -/
def triAfter : Storage Nat :=
  ⟨2, 2, 3, .free 2, [⟨.data 0, 1⟩, ⟨.data 1, 1⟩, ⟨.freeEnd, 2⟩], [⟨0, 1⟩, ⟨1, 1⟩], [[10, 11]], [],
    [⟨2, 1⟩]⟩

example : (destroyTrace cfgEx 7 psEx fDestroyThenCont (List.range triEx.len).reverse 0 triEx)[1]?
    = some (1, triAfter) := rfl

/-- Repaired loop: the second call's direct handle is `(1, version 2)` and it resolves. -/
example :
    ((destroyLoop cfgEx 7 psEx (recR fDestroyThenCont) (List.range triEx.len).reverse (0, [])
        triEx).log?.map (fun l => l.map (fun c => c.args[1]?)))
      = some [some (.dir (mkKey 2 7 1)), some (.dir (mkKey 1 7 2)), some (.dir (mkKey 0 7 2))]
    ∧ resolveDirect cfgEx triAfter 1 2 = .ok (some (1, 1)) triAfter := ⟨rfl, rfl⟩

end LoopsEx

open LoopsEx StorageEx in
/-- **C07.**  With the version read once before the loop
(`destroyLoopStale`), on three entities and the decisions destroy-then-continue: the second
call runs in `triAfter` (archetype version 2, entity `(1,1)` alive at dense index 1) but its
direct handle is `(1, version 1)`: `resolveDirect` rejects it.  (With the repaired loop it is
`(1, version 2)` and resolves, see the example above and `minted_direct_designates`.) -/
theorem destroyLoop_stale_version_witness :
    ∃ (log : List (Call Nat Step4)) (c : Call Nat Step4),
      (destroyLoopStale cfgEx 7 psEx (recR fDestroyThenCont) triEx.version
          (List.range triEx.len).reverse (0, []) triEx).log? = some log
      ∧ log[1]? = some c
      -- the direct-handle argument of the second call: dense index 1, *stale* version 1
      ∧ c.args[1]? = some (Arg.dir (mkKey 1 7 1))
      -- the storage that call ran in
      ∧ (destroyTraceStale cfgEx 7 psEx (recR fDestroyThenCont) triEx.version
          (List.range triEx.len).reverse (0, []) triEx)[1]? = some (1, triAfter)
      ∧ Inv cfgEx triAfter
      ∧ triAfter.ents[1]? = some ⟨1, 1⟩ ∧ triAfter.version = 2
      -- the handle is refused there
      ∧ resolveDirect cfgEx triAfter 1 1 = .ok none triAfter
      ∧ ¬ ∃ si, resolveDirect cfgEx triAfter 1 1 = .ok (some (si, 1)) triAfter := by
  refine ⟨_, _, rfl, rfl, rfl, rfl, ?_, rfl, rfl, rfl, ?_⟩
  · obtain ⟨h1, _⟩ := minted_direct_designates triEx_inv 7 psEx_cols fDestroyThenCont 0
      (1, triAfter) (List.mem_of_getElem? (i := 1) rfl)
    exact h1
  · rintro ⟨si, h⟩
    have : resolveDirect cfgEx triAfter 1 1 = .ok none triAfter := rfl
    rw [this] at h; cases h

end Gecs.Loops

section
open Gecs
#print axioms Loops.iterLoop_sim
#print axioms Loops.destroyLoop_sim
#print axioms Loops.iterQuery_sim
#print axioms Loops.iterDestroyQuery_sim
#print axioms Loops.iterLoop_recArgs_sim
#print axioms Loops.iterLoop_recR_sim
#print axioms Loops.iterLoop_recR_recArgs
#print axioms Loops.destroyLoop_recArgs_sim
#print axioms Loops.destroyLoop_recR_sim
#print axioms Loops.destroyLoop_recR_recArgs
#print axioms Loops.iterQuery_recArgs_sim
#print axioms Loops.iterQuery_recR_sim
#print axioms Loops.iterDestroyQuery_recArgs_sim
#print axioms Loops.iterDestroyQuery_recR_sim
#print axioms Loops.destroyTrace_sim
#print axioms Loops.bindArgs_eq_some_iff
#print axioms Loops.bindArgs_own
#print axioms Loops.applyWrites_frame
#print axioms Loops.iterLoop_trace
#print axioms Loops.iterLoop_frame
#print axioms Loops.iterLoop_bad_col
#print axioms Loops.iterLoop_shape
#print axioms Loops.iterQuery_not_ub
#print axioms Loops.destroyLoop_main
#print axioms Loops.destroyLoop_spec
#print axioms Loops.destroyLoop_spec_wrapping
#print axioms Loops.destroyLoop_args_of_trace
#print axioms Loops.destroyLoop_not_ub
#print axioms Loops.destroyLoop_bad_col
#print axioms Loops.minted_direct_designates
#print axioms Loops.destroyLoop_stale_version_witness
#print axioms Loops.destroyLoop_shape
#print axioms Loops.iterDestroyQuery_not_ub
end
