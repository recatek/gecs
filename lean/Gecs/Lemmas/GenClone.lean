/-
Tie of the statements TRANSLATED from `Clone for StorageN` and `Drop for StorageN`
(Gecs/Gen/Steps.lean: `cloneSteps`, `cloneFields`, `dropSteps`) to the model's `cloneStorage` /
`dropStorage` (Model/Storage.lean): `drop` for EVERY storage state, `clone` for every state with
`len ≤ capacity` (the extracted `clone` writes `len` rows into arrays allocated for `capacity`: beyond
that it is `ub`, while the model does not compare `len` with `capacity`) and every user `Clone::clone`.
-/
import Gecs.Gen.Steps

namespace Gecs

variable {α : Type}

theorem gen_steps_clone (cfg : Cfg) (cl : α → α) (s : Storage α) (hle : s.len ≤ s.capacity) :
    Out.same (execClone cfg cl Gen.cloneSteps Gen.cloneFields s) (cloneStorage cl s) := by
  unfold execClone cloneStorage Gen.cloneSteps Gen.cloneFields
  by_cases h1 : s.slots.length < s.capacity
  · simp [runK, kstep, h1, Out.same]
  by_cases h2 : s.ents.length < s.len
  · simp [runK, kstep, h1, h2, Out.same]
  by_cases h3 : (s.cols.any (fun c => decide (c.length < s.len))) = true
  · simp [runK, kstep, h1, h2, h3, Out.same]
  · cases cfg.events <;>
      simp [runK, kstep, h1, h2, h3, hle, kfields, kfield, KLit.build, Out.same, List.map_map, Function.comp_def]

theorem gen_steps_drop (s : Storage α) :
    Out.same (execDrop Gen.dropSteps s) (dropStorage s) := by
  unfold execDrop dropStorage Gen.dropSteps
  by_cases h3 : (s.cols.any (fun c => decide (c.length < s.len))) = true
  · simp [runP, pstep, h3, Out.same]
  · simp [runP, pstep, h3, Out.same]

end Gecs
