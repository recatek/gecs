/-
What an operation may do to ONE storage.  `LPost cfg P s s'`: a path of labelled atomic steps
(`LReach`) from `s` to `s'` whose labels satisfy `P`, through `Inv` states, ending in an `Inv`
state with as many columns as before.  It is reflexive and transitive, every single step that
keeps the number of columns gives one (a creation with a short row does not keep it: its
`zipWith` truncates `cols`), and it is proved here for each storage-level piece of the API: a
creation (`push_lpost`, `pushWithin_lpost`), a removal (`storageDestroy_lpost`) and, by the rules
of `LoopRules.lean`, the closure's writes (`LPost.writes`) and the two per-archetype loops with an
arbitrary closure (`iterLoop_lsat`, `destroyLoop_lsat`).  A `…_lsat` lemma says that an outcome
`sat`isfies the labelled postcondition: `(…).sat (LPost …)`, one level up `(…).sat (WRelL …)`.
`Inv` is what a query's view of a storage needs: the slices are valid
(`slicesValid_of_inv`; the model answers `ub` otherwise) and parameters naming existing columns
bind at every row below `len` (`bindArgs_isSome`; otherwise `ub` in `ecs_find!`, a panic in the
loops).  What a path of a given kind of labels cannot change is read off by one induction
(`LReachP.lift`: `LReachP.colsOnly`, `LReachP.capacity_eq_len_le`).
-/
import Gecs.Lemmas.WorldOps
import Gecs.Lemmas.LoopRules

namespace Gecs
variable {α σ : Type}

theorem LReach.trans {cfg : Cfg} {s s' s'' : Storage α} {L₁ L₂ : List (Lbl α)}
    (h1 : LReach cfg s L₁ s') (h2 : LReach cfg s' L₂ s'') : LReach cfg s (L₁ ++ L₂) s'' := by
  induction h2 with
  | refl => rw [List.append_nil]; exact h1
  | step _ hi hl ih => rw [← List.append_assoc]; exact .step ih hi hl

/-- A labelled path all of whose labels satisfy `P`. -/
def LReachP (cfg : Cfg) (P : Lbl α → Prop) (s s' : Storage α) : Prop :=
  ∃ L, LReach cfg s L s' ∧ ∀ l ∈ L, P l

theorem LReachP.refl (cfg : Cfg) (P : Lbl α → Prop) (s : Storage α) : LReachP cfg P s s :=
  ⟨[], .refl s, fun _ h => nomatch h⟩

theorem LReachP.trans {cfg : Cfg} {P : Lbl α → Prop} {s s' s'' : Storage α}
    (h1 : LReachP cfg P s s') (h2 : LReachP cfg P s' s'') : LReachP cfg P s s'' := by
  obtain ⟨L₁, r1, p1⟩ := h1
  obtain ⟨L₂, r2, p2⟩ := h2
  exact ⟨L₁ ++ L₂, r1.trans r2, fun l hl => (List.mem_append.mp hl).elim (p1 l) (p2 l)⟩

theorem LReachP.of_step {cfg : Cfg} {P : Lbl α → Prop} {s s' : Storage α} {l : Lbl α}
    (hi : Inv cfg s) (st : LStep cfg s l s') (hp : P l) : LReachP cfg P s s' :=
  ⟨[] ++ [l], .step (.refl s) hi st, fun l' hl' => by rw [List.mem_singleton.mp hl']; exact hp⟩

theorem LReachP.mono {cfg : Cfg} {P Q : Lbl α → Prop} {s s' : Storage α}
    (h : LReachP cfg P s s') (hpq : ∀ l, P l → Q l) : LReachP cfg Q s s' :=
  let ⟨L, r, p⟩ := h; ⟨L, r, fun l hl => hpq l (p l hl)⟩

theorem LReachP.sreach {cfg : Cfg} {P : Lbl α → Prop} {s s' : Storage α}
    (h : LReachP cfg P s s') : SReach cfg s s' :=
  let ⟨_, r, _⟩ := h; lreach_to_sreach r

/-- The induction for facts that only need every label to be in `P` (those that read the label
list, as `lreach_view` or `lreach_logs_on`, induct on `LReach` themselves): a reflexive,
transitive relation on storages that holds for every `P`-labelled step from an `Inv` state holds
along `LReachP cfg P`. -/
theorem LReachP.lift {cfg : Cfg} {P : Lbl α → Prop} {R : Storage α → Storage α → Prop}
    {s s' : Storage α} (h : LReachP cfg P s s') (refl : ∀ s, R s s)
    (trans : ∀ {s s' s''}, R s s' → R s' s'' → R s s'')
    (step : ∀ {s l s'}, Inv cfg s → LStep cfg s l s' → P l → R s s') : R s s' := by
  obtain ⟨L, r, hp⟩ := h
  induction r with
  | refl => exact refl _
  | step _ hi hl ih =>
    exact trans (ih (fun l h => hp l (List.mem_append_left _ h)))
      (step hi hl (hp _ (List.mem_append_right _ (List.mem_singleton_self _))))

/-- Only component values differ between `s` and `s'`. -/
structure ColsOnly (s s' : Storage α) : Prop where
  ents : s'.ents = s.ents
  len : s'.len = s.len
  capacity : s'.capacity = s.capacity
  version : s'.version = s.version
  slots : s'.slots = s.slots
  freeHead : s'.freeHead = s.freeHead
  created : s'.created = s.created
  destroyed : s'.destroyed = s.destroyed
  ncols : s'.cols.length = s.cols.length

theorem ColsOnly.refl (s : Storage α) : ColsOnly s s :=
  ⟨rfl, rfl, rfl, rfl, rfl, rfl, rfl, rfl, rfl⟩

theorem ColsOnly.trans {s s' s'' : Storage α} (h1 : ColsOnly s s') (h2 : ColsOnly s' s'') :
    ColsOnly s s'' :=
  ⟨h2.ents.trans h1.ents, h2.len.trans h1.len, h2.capacity.trans h1.capacity,
   h2.version.trans h1.version, h2.slots.trans h1.slots, h2.freeHead.trans h1.freeHead,
   h2.created.trans h1.created, h2.destroyed.trans h1.destroyed, h2.ncols.trans h1.ncols⟩

theorem ColsOnly.writeCell (s : Storage α) (d c : Nat) (x : α) : ColsOnly s (writeCell s d c x) :=
  ⟨rfl, rfl, rfl, rfl, rfl, rfl, rfl, rfl, writeCell_cols_length s d c x⟩

theorem LReachP.colsOnly {cfg : Cfg} {s s' : Storage α}
    (h : LReachP cfg (fun l => ∃ d c x, l = .write d c x) s s') : ColsOnly s s' :=
  h.lift ColsOnly.refl ColsOnly.trans (fun _ hl ⟨d, c, x, e⟩ => by
    subst e; cases hl; exact .writeCell _ d c x)

theorem LStep.capacity_eq_len_le {cfg : Cfg} {s s' : Storage α} {l : Lbl α} (hi : Inv cfg s)
    (h : LStep cfg s l s') (hl : ∀ e row, l ≠ .created e row) :
    s'.capacity = s.capacity ∧ s'.len ≤ s.len := by
  cases l with
  | created e row => exact absurd rfl (hl e row)
  | destroyed t row =>
    obtain ⟨_, r⟩ := lstep_destroyed hi h
    exact ⟨r.cap, by rw [r.len]; exact Nat.sub_le _ _⟩
  | write => cases h; exact ⟨rfl, Nat.le_refl _⟩
  | clear => cases h; exact ⟨rfl, Nat.le_refl _⟩
  | clone => cases h; exact ⟨rfl, Nat.le_refl _⟩

theorem LReachP.capacity_eq_len_le {cfg : Cfg} {s s' : Storage α}
    (h : LReachP cfg (fun l => ∀ e row, l ≠ .created e row) s s') :
    s'.capacity = s.capacity ∧ s'.len ≤ s.len :=
  h.lift (R := fun s s' => s'.capacity = s.capacity ∧ s'.len ≤ s.len)
    (fun _ => ⟨rfl, Nat.le_refl _⟩) (fun h1 h2 => ⟨h2.1.trans h1.1, Nat.le_trans h2.2 h1.2⟩)
    LStep.capacity_eq_len_le

/-- What an operation may do to one storage: a path of labelled steps with labels in `P`, ending
in an `Inv` state with as many columns as before. -/
structure LPost (cfg : Cfg) (P : Lbl α → Prop) (s s' : Storage α) : Prop where
  inv : Inv cfg s'
  path : LReachP cfg P s s'
  ncols : s'.cols.length = s.cols.length

theorem LPost.refl {cfg : Cfg} {P : Lbl α → Prop} {s : Storage α} (hs : Inv cfg s) :
    LPost cfg P s s := ⟨hs, .refl cfg P s, rfl⟩

theorem LPost.trans {cfg : Cfg} {P : Lbl α → Prop} {s s' s'' : Storage α}
    (h1 : LPost cfg P s s') (h2 : LPost cfg P s' s'') : LPost cfg P s s'' :=
  ⟨h2.inv, h1.path.trans h2.path, h2.ncols.trans h1.ncols⟩

theorem LPost.step {cfg : Cfg} {P : Lbl α → Prop} {s s' : Storage α} {l : Lbl α}
    (hi : Inv cfg s) (st : LStep cfg s l s') (hp : P l) (hn : s'.cols.length = s.cols.length) :
    LPost cfg P s s' :=
  ⟨sstep_inv hi (lstep_to_sstep st), .of_step hi st hp, hn⟩

/-- The closure's writes: `.write` labels at row `idx`, each to a column bound `&mut`. -/
theorem LPost.writes {cfg : Cfg} {P : Lbl α → Prop} (idx : Nat) (ps : List Param)
    (ws : List (Option α)) {s : Storage α} (hs : Inv cfg s)
    (hW : ∀ c, Param.comp c true ∈ ps → ∀ x, P (.write idx c x)) :
    LPost cfg P s (applyWrites s idx ps ws) :=
  applyWrites_rule idx ps ws s
    (fun s' c x hc h => h.trans <|
      .step h.inv (.write s' idx c x) (hW c hc x) (writeCell_cols_length s' idx c x))
    (.refl hs)

theorem applyWrites_inv {cfg : Cfg} {s : Storage α} (hs : Inv cfg s) (idx : Nat)
    (ps : List Param) (ws : List (Option α)) : Inv cfg (applyWrites s idx ps ws) :=
  (LPost.writes (P := fun _ => True) idx ps ws hs fun _ _ _ => trivial).inv

theorem applyWrites_reach {cfg : Cfg} {s : Storage α} (hs : Inv cfg s) (idx : Nat)
    (ps : List Param) (ws : List (Option α)) : SReach cfg s (applyWrites s idx ps ws) :=
  (LPost.writes (P := fun _ => True) idx ps ws hs fun _ _ _ => trivial).path.sreach

theorem push_lpost {cfg : Cfg} {P : Lbl α → Prop} {s : Storage α} (hs : Inv cfg s) {g : Nat → Nat}
    (hg : GrowOk cfg g) {row : List α} (hn : s.cols.length = row.length)
    (hC : ∀ e, P (.created e row)) :
    (∃ e s', push cfg g s row = .ok e s' ∧ LPost cfg P s s')
    ∨ (∃ m, push cfg g s row = .panic m s) := by
  rcases push_spec row hs (hg _) with ⟨_, e, s', h1, c⟩ | ⟨_, hp⟩
  · exact .inl ⟨e, s', h1, .step hs (.push s s' g row e (hg _) h1) (hC e)
      (by rw [c.cols_length, hn, Nat.min_self])⟩
  · exact .inr ⟨_, hp⟩

theorem pushWithin_lpost {cfg : Cfg} {P : Lbl α → Prop} {s : Storage α} (hs : Inv cfg s)
    {row : List α} (hn : s.cols.length = row.length) (hC : ∀ e, P (.created e row)) :
    ∃ r s', pushWithin cfg s row = .ok r s' ∧ LPost cfg P s s' := by
  by_cases hlt : s.len < s.capacity
  · obtain ⟨e, s', h1, c, _⟩ := pushWithin_ok row hs hlt
    exact ⟨some e, s', h1, .step hs (.pushWithin s s' row e h1) (hC e)
      (by rw [c.cols_length, hn, Nat.min_self])⟩
  · exact ⟨none, s, pushWithin_full row (Nat.le_of_not_lt hlt), .refl hs⟩

theorem destroyEnt_lpost {cfg : Cfg} {P : Lbl α → Prop} {s : Storage α} (hs : Inv cfg s) (e : Ent)
    (hD : ∀ t row, P (.destroyed t row)) :
    (∃ r s', destroyEnt cfg s e = .ok r s' ∧ LPost cfg P s s')
    ∨ (∃ m, destroyEnt cfg s e = .panic m s) := by
  rcases destroyEnt_spec cfg s e hs with ⟨g, _⟩ | ⟨_, row, s2, g, r⟩ | ⟨m, g, _⟩
  · exact .inl ⟨none, s, g, .refl hs⟩
  · exact .inl ⟨some row, s2, g, .step hs (.destroyEnt s s2 e row g) (hD e row) r.cols_length⟩
  · exact .inr ⟨m, g⟩

/-- The panic disjunct, in the state as it was, is C10 at storage level. -/
theorem storageDestroy_lpost {cfg : Cfg} {P : Lbl α → Prop} {s : Storage α} (hs : Inv cfg s)
    (direct : Bool) (k : Key) (hD : ∀ t row, P (.destroyed t row)) :
    (∃ r s', storageDestroy cfg s direct k = .ok r s' ∧ LPost cfg P s s')
    ∨ (∃ m, storageDestroy cfg s direct k = .panic m s) := by
  cases direct
  · exact destroyEnt_lpost hs _ hD
  · rcases destroyDirect_spec cfg s k.index k.ver hs with ⟨g, _⟩ | ⟨t, row, s2, g, _, r⟩ | ⟨m, g, _⟩
    · exact .inl ⟨none, s, g, .refl hs⟩
    · exact .inl ⟨some row, s2, g,
        .step hs (.destroyDirect s s2 _ _ t row r.pos g) (hD t row) r.cols_length⟩
    · exact .inr ⟨m, g⟩

theorem slicesValid_of_inv {cfg : Cfg} {s : Storage α} (h : Inv cfg s) :
    slicesValid cfg s = true := by
  simp [slicesValid, h.entsLen, h.len_le_maxCap, h.cols_all_len]

theorem bindArgs_isSome {cfg : Cfg} {s : Storage α} (hs : Inv cfg s) (idA version : Nat) {d : Nat}
    (hd : d < s.len) :
    ∀ (ps : List Param), (∀ c m, Param.comp c m ∈ ps → c < s.cols.length) →
      ∃ args, bindArgs idA s version d ps = some args := by
  intro ps hp
  induction ps with
  | nil => exact ⟨[], rfl⟩
  | cons p ps ih =>
    obtain ⟨as, has⟩ := ih fun c m h => hp c m (List.mem_cons_of_mem _ h)
    obtain ⟨e, he⟩ := hs.ents_get hd
    obtain ⟨a, ha⟩ : ∃ a, Loops.bindArg idA s version d p = some a := by
      cases p with
      | comp c m =>
        have hc := hp c m List.mem_cons_self
        have hx : d < (s.cols.getD c []).length := by
          rw [List.getD_eq_getElem?_getD, List.getElem?_eq_getElem hc, Option.getD_some,
            hs.colsLen _ (List.getElem_mem hc)]
          exact hd
        exact ⟨_, by rw [Loops.bindArg, List.getElem?_eq_getElem hx]; rfl⟩
      | ent | entAny => exact ⟨_, by rw [Loops.bindArg, he]; rfl⟩
      | dir | dirAny => exact ⟨_, rfl⟩
    exact ⟨a :: as, by rw [Loops.bindArgs_cons, ha, has]⟩

theorem iterLoop_lsat {cfg : Cfg} {P : Lbl α → Prop} (idA : Nat) (ps : List Param)
    (f : Closure σ α Step) (version : Nat) (idxs : List Nat) (st : σ) (s : Storage α)
    (hs : Inv cfg s) (hW : ∀ c, Param.comp c true ∈ ps → ∀ d x, P (.write d c x)) :
    (iterLoop idA ps f version idxs st s).sat (LPost cfg P s) :=
  iterLoop_rule idA ps f version idxs st s (fun idx _ _ ws h =>
    h.trans (.writes idx ps ws h.inv fun c hc => hW c hc idx)) (.refl hs)

theorem destroyLoop_lsat {cfg : Cfg} {P : Lbl α → Prop} (idA : Nat) (ps : List Param)
    (f : Closure σ α Step4)
    (hW : ∀ c, Param.comp c true ∈ ps → ∀ d x, P (.write d c x))
    (hD : ∀ t row, P (.destroyed t row)) (idxs : List Nat) (st : σ) (s : Storage α)
    (hs : Inv cfg s) : (destroyLoop cfg idA ps f idxs st s).sat (LPost cfg P s) :=
  destroyLoop_rule cfg idA ps f (fun _ h => slicesValid_of_inv h.inv)
    (fun _ idx ws h => h.trans (.writes idx ps ws h.inv fun c hc => hW c hc idx))
    (fun _ e h => (destroyEnt_lpost h.inv e hD).imp_left
      fun ⟨r, s', g, gp⟩ => ⟨r, s', g, h.trans gp⟩)
    idxs st s (.refl hs)

end Gecs
