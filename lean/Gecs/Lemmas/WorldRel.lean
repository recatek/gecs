/-
What an operation may do to the WORLD.  `WRelL cfg P w w'`: `w'` still satisfies `WInv`, has the
ids and as many archetypes as `w`, and every archetype `a` is an `LPost cfg (P a)` successor of
what it was (`WRelL.lpost`, `WRelL.of_lpost`); `WRel` is the same with the labels forgotten.  A
storage operation lifted to one archetype establishes it (`WRelL.setArch`, `liftArch_lsat`), a
transformation of every storage does (`WRelL.map`; `World.clone` is one: `World.clone_spec`,
`World.clone_rel`), and so do the three query forms with an arbitrary closure (`iterQuery_lsat`,
`iterDestroyQuery_lsat`, `findQuery_lsat`) — whatever the outcome, `ok` or `panic` (`QOut.sat`,
`FOut.sat`, `Res.sat`: never `ub`).
-/
import Gecs.Lemmas.LPost

namespace Gecs
variable {α σ : Type}

/-- `w'` is a legitimate successor of `w`: still `WInv`, same ids, same number of archetypes,
every storage reached by atomic steps, same number of columns. -/
structure WRel (cfg : Cfg) (w w' : World α) : Prop where
  winv : WInv cfg w'
  ids : w'.ids = w.ids
  len : w'.archs.length = w.archs.length
  reach : ∀ (a : Nat) (s s' : Storage α),
    w.archs[a]? = some s → w'.archs[a]? = some s' → SReach cfg s s'
  ncols : ∀ (a : Nat) (s s' : Storage α),
    w.archs[a]? = some s → w'.archs[a]? = some s' → s'.cols.length = s.cols.length

/-- `WRel` with the per-archetype labels kept: every archetype `a` is reached by a labelled path
whose labels satisfy `P a`. -/
structure WRelL (cfg : Cfg) (P : Nat → Lbl α → Prop) (w w' : World α) : Prop where
  winv : WInv cfg w'
  ids : w'.ids = w.ids
  len : w'.archs.length = w.archs.length
  lreach : ∀ (a : Nat) (s s' : Storage α),
    w.archs[a]? = some s → w'.archs[a]? = some s' → LReachP cfg (P a) s s'
  ncols : ∀ (a : Nat) (s s' : Storage α),
    w.archs[a]? = some s → w'.archs[a]? = some s' → s'.cols.length = s.cols.length

theorem WRelL.toWRel {cfg : Cfg} {P : Nat → Lbl α → Prop} {w w' : World α}
    (h : WRelL cfg P w w') : WRel cfg w w' :=
  ⟨h.winv, h.ids, h.len, fun a s s' g1 g2 => (h.lreach a s s' g1 g2).sreach, h.ncols⟩

theorem WRelL.lpost {cfg : Cfg} {P : Nat → Lbl α → Prop} {w w' : World α} (h : WRelL cfg P w w')
    {a : Nat} {s s' : Storage α} (g : w.archs[a]? = some s) (g' : w'.archs[a]? = some s') :
    LPost cfg (P a) s s' :=
  ⟨h.winv.get g', h.lreach a s s' g g', h.ncols a s s' g g'⟩

theorem WRelL.of_lpost {cfg : Cfg} {P : Nat → Lbl α → Prop} {w w' : World α} (hw' : WInv cfg w')
    (hids : w'.ids = w.ids) (hlen : w'.archs.length = w.archs.length)
    (h : ∀ (a : Nat) (s s' : Storage α),
      w.archs[a]? = some s → w'.archs[a]? = some s' → LPost cfg (P a) s s') : WRelL cfg P w w' :=
  ⟨hw', hids, hlen, fun a s s' g g' => (h a s s' g g').path, fun a s s' g g' => (h a s s' g g').ncols⟩

theorem WRelL.refl {cfg : Cfg} {P : Nat → Lbl α → Prop} {w : World α} (hw : WInv cfg w) :
    WRelL cfg P w w :=
  .of_lpost hw rfl rfl fun a s s' g g' => by
    cases g.symm.trans g'
    exact .refl (hw.get g)

theorem WRelL.trans {cfg : Cfg} {P : Nat → Lbl α → Prop} {w w' w'' : World α}
    (h1 : WRelL cfg P w w') (h2 : WRelL cfg P w' w'') : WRelL cfg P w w'' :=
  .of_lpost h2.winv (h2.ids.trans h1.ids) (h2.len.trans h1.len) fun _ _ _ g g'' =>
    let ⟨_, g'⟩ := getElem?_some_of_length_eq h1.len g
    (h1.lpost g g').trans (h2.lpost g' g'')

theorem WRelL.mono {cfg : Cfg} {P Q : Nat → Lbl α → Prop} {w w' : World α}
    (h : WRelL cfg P w w') (hpq : ∀ a l, P a l → Q a l) : WRelL cfg Q w w' :=
  ⟨h.winv, h.ids, h.len, fun a s s' g g' => (h.lreach a s s' g g').mono (hpq a), h.ncols⟩

theorem WRelL.setArch {cfg : Cfg} {P : Nat → Lbl α → Prop} {w : World α} (hw : WInv cfg w)
    {a : Nat} {s s' : Storage α} (hs : w.archs[a]? = some s) (h : LPost cfg (P a) s s') :
    WRelL cfg P w (w.setArch a s') :=
  .of_lpost (hw.setArch a h.inv) rfl (World.setArch_length w a s') fun b t t' g g' => by
    by_cases hab : a = b
    · subst hab
      rw [World.setArch_get_self s' (List.getElem?_eq_some_iff.mp hs).1] at g'
      cases hs.symm.trans g; cases g'; exact h
    · rw [World.setArch_get_ne s' hab, g] at g'
      cases g'; exact .refl (hw.get g)

theorem WRelL.map {cfg : Cfg} {P : Nat → Lbl α → Prop} {w : World α} (hw : WInv cfg w)
    (F : Storage α → Storage α) (hF : ∀ a s, Inv cfg s → LPost cfg (P a) s (F s)) :
    WRelL cfg P w ⟨w.ids, w.archs.map F⟩ := by
  refine .of_lpost ⟨by simp [hw.idsLen], hw.idsNodup, hw.idsLt, ?_⟩ rfl (by simp) ?_
  · intro s hs
    obtain ⟨s0, h0, rfl⟩ := List.mem_map.mp hs
    exact (hF 0 s0 (hw.inv s0 h0)).inv
  · intro a s s' g g'
    simp only [List.getElem?_map, g, Option.map_some, Option.some.injEq] at g'
    subst g'; exact hF a s (hw.get g)

theorem WRel.refl {cfg : Cfg} {w : World α} (hw : WInv cfg w) : WRel cfg w w :=
  (WRelL.refl (P := fun _ _ => True) hw).toWRel

theorem WRel.trans {cfg : Cfg} {w w' w'' : World α} (h1 : WRel cfg w w') (h2 : WRel cfg w' w'') :
    WRel cfg w w'' where
  winv := h2.winv
  ids := h2.ids.trans h1.ids
  len := h2.len.trans h1.len
  reach a s s'' g g'' :=
    let ⟨s', g'⟩ := getElem?_some_of_length_eq h1.len g
    (h1.reach a s s' g g').trans (h2.reach a s' s'' g' g'')
  ncols a s s'' g g'' :=
    let ⟨s', g'⟩ := getElem?_some_of_length_eq h1.len g
    (h2.ncols a s' s'' g' g'').trans (h1.ncols a s s' g g')

theorem WRel.sch_eq {cfg : Cfg} {w w' : World α} (h : WRel cfg w w') : w'.sch = w.sch := by
  unfold World.sch
  refine List.ext_getElem (by rw [List.length_map, List.length_map, h.len]) fun a _ _ => ?_
  rw [List.getElem_map, List.getElem_map]
  exact h.ncols a _ _ (List.getElem?_eq_getElem _) (List.getElem?_eq_getElem _)

theorem clone_go {cfg : Cfg} (cl : α → α) (w : World α) :
    ∀ (l acc : List (Storage α)), (∀ s ∈ l, Inv cfg s) →
      World.clone.go cl w l acc
        = .ok ⟨w.ids, acc ++ l.map (fun s => { s with cols := s.cols.map (·.map cl) })⟩ () := by
  intro l
  induction l with
  | nil => intro acc _; simp [World.clone.go]
  | cons s l ih =>
    intro acc hl
    simp only [World.clone.go, cloneStorage_spec (hl s List.mem_cons_self)]
    rw [ih _ (fun s' hs' => hl s' (List.mem_cons_of_mem _ hs'))]
    simp

theorem World.clone_spec {cfg : Cfg} {w : World α} (hw : WInv cfg w) (cl : α → α) :
    w.clone cl
      = .ok ⟨w.ids, w.archs.map (fun s => { s with cols := s.cols.map (·.map cl) })⟩ () := by
  simp [World.clone, clone_go (cfg := cfg) cl w w.archs [] hw.inv]

theorem World.clone_rel {cfg : Cfg} {w : World α} (hw : WInv cfg w) (cl : α → α) :
    WRel cfg w ⟨w.ids, w.archs.map (fun s => { s with cols := s.cols.map (·.map cl) })⟩ :=
  (WRelL.map (P := fun _ _ => True) hw _ fun _ s hi =>
    .step hi (.clone s cl) trivial (by simp)).toWRel

def FOut.sat {ρ : Type} (P : World α → Prop) : FOut σ α ρ → Prop
  | .ok _ _ w' => P w'
  | .panic _ _ w' => P w'
  | .ub _ => False

def Res.sat (P : World α → Prop) : Res α → Prop
  | .ok w' => P w'
  | .panic _ w' => P w'
  | .ub _ => False

theorem Res.sat_mono {P Q : World α → Prop} {o : Res α} (h : o.sat P)
    (hpq : ∀ w, P w → Q w) : o.sat Q := by
  cases o with
  | ub => exact h
  | _ => exact hpq _ h

theorem FOut.sat_mono {ρ : Type} {P Q : World α → Prop} {o : FOut σ α ρ} (h : o.sat P)
    (hpq : ∀ w, P w → Q w) : o.sat Q := by
  cases o with
  | ub => exact h
  | _ => exact hpq _ h

theorem QOut.sat_not_ub {P : World α → Prop} {o : QOut σ α} (h : o.sat P) : ∀ m, o ≠ .ub m := by
  intro m hm; rw [hm] at h; exact h

theorem FOut.sat_not_ub {ρ : Type} {P : World α → Prop} {o : FOut σ α ρ} (h : o.sat P) :
    ∀ m, o ≠ .ub m := by
  intro m hm; rw [hm] at h; exact h

theorem Res.sat_not_ub {P : World α → Prop} {o : Res α} (h : o.sat P) : ∀ m, o ≠ .ub m := by
  intro m hm; rw [hm] at h; exact h

theorem Res.sat_iff {P : World α → Prop} {o : Res α} :
    o.sat P ↔ ∃ w', (o = .ok w' ∨ ∃ m, o = .panic m w') ∧ P w' := by
  cases o <;> simp [Res.sat]

theorem QOut.sat_res {P : World α → Prop} {o : QOut σ α} (h : o.sat P) :
    (match (generalizing := false) o with
      | .ok _ w' => .ok w'
      | .panic m _ w' => .panic m w'
      | .ub m => .ub m : Res α).sat P := by
  cases o <;> exact h

theorem liftArch_lsat {β : Type} {cfg : Cfg} {P : Nat → Lbl α → Prop} {w : World α}
    (hw : WInv cfg w) {a : Nat} {s : Storage α} (hs : w.archs[a]? = some s)
    {f : Storage α → Out (Storage α) β}
    (hf : (∃ b s', f s = .ok b s' ∧ LPost cfg (P a) s s') ∨ (∃ m, f s = .panic m s)) :
    (Res.ofWOut (liftArch w a f)).sat (WRelL cfg P w) := by
  rcases hf with ⟨b, s', g, gp⟩ | ⟨m, g⟩
  · rw [liftArch_ok hs g]; exact .setArch hw hs gp
  · rw [liftArch_panic_same hs g]; exact .refl hw

/-- Every archetype the query matches exists (`ecs_iter!` / `ecs_iter_destroy!`). -/
def QArchsIn (n : Nat) (q : Query) : Prop := ∀ qa ∈ q, qa.a < n

/-- Every archetype the query matches exists and has the columns the bound parameters name
(`sch` = number of columns per archetype).  Guaranteed by the macro's binding step. -/
def QColsIn (sch : List Nat) (q : Query) : Prop :=
  ∀ qa ∈ q, ∃ nc, sch[qa.a]? = some nc ∧ ∀ c m, Param.comp c m ∈ qa.params → c < nc

theorem QColsIn.archsIn {sch : List Nat} {q : Query} (h : QColsIn sch q) : QArchsIn sch.length q := by
  intro qa hqa
  obtain ⟨nc, h1, _⟩ := h qa hqa
  exact (List.getElem?_eq_some_iff.mp h1).1

theorem iterQuery_lsat {cfg : Cfg} {P : Nat → Lbl α → Prop} (f : Closure σ α Step) (q : Query)
    (st : σ) (w : World α) (hw : WInv cfg w) (hq : QArchsIn w.archs.length q)
    (hW : ∀ qa ∈ q, ∀ c, Param.comp c true ∈ qa.params → ∀ d x, P qa.a (.write d c x)) :
    (iterQuery cfg f q st w).sat (WRelL cfg P w) :=
  iterQuery_rule cfg f q st w (fun qa hqa w1 st1 h1 => by
    obtain ⟨s, hs⟩ : ∃ s, w1.archs[qa.a]? = some s :=
      ⟨_, List.getElem?_eq_getElem (by rw [h1.len]; exact hq qa hqa)⟩
    have hi := h1.winv.get hs
    exact ⟨s, hs, slicesValid_of_inv hi,
      LoopOut.sat_mono (iterLoop_lsat _ _ f _ _ st1 s hi (hW qa hqa))
        fun _ hp => h1.trans (.setArch h1.winv hs hp)⟩) (.refl hw)

theorem iterDestroyQuery_lsat {cfg : Cfg} {P : Nat → Lbl α → Prop} (f : Closure σ α Step4)
    (q : Query) (st : σ) (w : World α) (hw : WInv cfg w) (hq : QArchsIn w.archs.length q)
    (hW : ∀ qa ∈ q, ∀ c, Param.comp c true ∈ qa.params → ∀ d x, P qa.a (.write d c x))
    (hD : ∀ qa ∈ q, ∀ t row, P qa.a (.destroyed t row)) :
    (iterDestroyQuery cfg f q st w).sat (WRelL cfg P w) :=
  iterDestroyQuery_rule cfg f q st w (fun qa hqa w1 st1 h1 => by
    obtain ⟨s, hs⟩ : ∃ s, w1.archs[qa.a]? = some s :=
      ⟨_, List.getElem?_eq_getElem (by rw [h1.len]; exact hq qa hqa)⟩
    exact ⟨s, hs,
      LoopOut.sat_mono (destroyLoop_lsat _ _ f (hW qa hqa) (hD qa hqa) _ st1 s (h1.winv.get hs))
        fun _ hp => h1.trans (.setArch h1.winv hs hp)⟩) (.refl hw)

theorem findQuery_lsat {ρ : Type} {cfg : Cfg} {P : Nat → Lbl α → Prop} {w : World α}
    (hw : WInv cfg w) (q : Query) (f : Closure σ α ρ) (h : Handle) (st : σ)
    (hq : QColsIn w.sch q)
    (hW : ∀ qa ∈ q, ∀ c, Param.comp c true ∈ qa.params → ∀ d x, P qa.a (.write d c x)) :
    (findQuery cfg q f h st w).sat (WRelL cfg P w) := by
  unfold findQuery
  cases hr : routeWorld cfg w.ids h with
  | absent | panic => exact .refl hw
  | arch a k =>
    simp only []
    cases hfind : q.find? (fun qa => qa.a == a) with
    | none => exact .refl hw
    | some qa =>
      simp only []
      have hqa : qa ∈ q := List.mem_of_find?_eq_some hfind
      obtain rfl : qa.a = a := by simpa using List.find?_some hfind
      obtain ⟨nc, hnc, hcols⟩ := hq qa hqa
      obtain ⟨s, hs, rfl⟩ := World.sch_get hnc
      have hi := hw.get hs
      simp only [hs]
      rcases (storageResolve_looked (cfg := cfg) hi h.kind.isDirect k).cases with
        ⟨d, hb, hd, _⟩ | hb | ⟨m, hb⟩ <;> rw [hb]
      · simp only [slicesValid_of_inv hi, if_true]
        obtain ⟨args, hargs⟩ :=
          bindArgs_isSome hi (w.ids.getD qa.a ID_RANGE) s.version hd qa.params hcols
        rw [hargs]
        simp only []
        have hws := fun ws => WRelL.setArch hw hs
          (LPost.writes d qa.params ws hi fun c hc => hW qa hqa c hc d)
        cases f st args with
        | panic st' ws => exact hws ws
        | ret st' ws r => exact hws ws
      · exact .refl hw
      · exact .refl hw

end Gecs
