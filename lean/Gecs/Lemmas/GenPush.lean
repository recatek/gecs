/-
`StorageN::push` / `push_within_capacity` run from their extracted statements (with `grow` and
`force_create` run from theirs) are the model's `push` / `pushWithin` in every invariant state.
-/
import Gecs.Lemmas.GenStepsApi

namespace Gecs

variable {α : Type}

def Gen.prims : Prims := { slots := Gen.slotBodies, create := Gen.forceCreateSteps, grow := Gen.growSteps }

theorem gen_steps_push_body (cfg : Cfg) (g : Nat → Nat) (s : Storage α) (row : List α) (hle : s.len ≤ s.capacity) :
    runPush cfg Gen.prims g row Gen.pushSteps s = pushS cfg g s row := by
  have hnl : ¬ (cfg.debug = true ∧ ¬ s.len ≤ s.capacity) := fun h => h.2 hle
  unfold Gen.pushSteps pushS Gen.prims
  by_cases hfull : s.len ≥ s.capacity
  · simp only [runPush, hnl, hfull, if_true, if_false]
    cases execGrow cfg Gen.growSteps s (g s.capacity) with
    | ok r u => cases r <;> simp
    | panic m u => rfl
    | ub m => rfl
  · have : ¬ s.capacity < s.len := Nat.not_lt_of_le hle
    simp [runPush, hfull, this]

theorem gen_steps_push_within_body (cfg : Cfg) (s : Storage α) (row : List α) (hle : s.len ≤ s.capacity) :
    runPushWithin cfg Gen.prims row Gen.pushWithinSteps s = pushWithinS cfg s row := by
  have hnl : ¬ (cfg.debug = true ∧ ¬ s.len ≤ s.capacity) := fun h => h.2 hle
  unfold Gen.pushWithinSteps pushWithinS Gen.prims
  have : ¬ s.capacity < s.len := Nat.not_lt_of_le hle
  by_cases hfull : s.len ≥ s.capacity
  · simp [runPushWithin, hfull, hle]
  · simp only [runPushWithin, hfull, hnl, if_false]
    cases execCreate cfg Gen.slotBodies Gen.forceCreateSteps s row <;> rfl

/-- `create` / `create_within_capacity`, every statement below the API taken from the source,
are the model's operations (C12: the capacity test; C01/C08: the handle returned). -/
theorem gen_steps_create_all_statements (cfg : Cfg) (g : Nat → Nat) (s : Storage α) (row : List α) (h : Inv cfg s) :
    Out.same (runPush cfg Gen.prims g row Gen.pushSteps s) (push cfg g s row)
    ∧ Out.same (runPushWithin cfg Gen.prims row Gen.pushWithinSteps s) (pushWithin cfg s row) := by
  rw [gen_steps_push_body cfg g s row h.lenCap, gen_steps_push_within_body cfg s row h.lenCap]
  exact ⟨gen_steps_push cfg g s row h, gen_steps_push_within cfg s row h⟩

/-- C12: `create_within_capacity`, as extracted, fails exactly when `len ≥ capacity`, and then
changes nothing. -/
theorem GenPush_C12_within_capacity_iff (cfg : Cfg) (s : Storage α) (row : List α) (h : Inv cfg s) :
    (runPushWithin cfg Gen.prims row Gen.pushWithinSteps s = .ok none s) ↔ s.len ≥ s.capacity := by
  rw [gen_steps_push_within_body cfg s row h.lenCap]
  unfold pushWithinS
  by_cases hfull : s.len ≥ s.capacity
  · simp [hfull]
  · simp only [hfull, if_false, iff_false]
    cases execCreate cfg Gen.slotBodies Gen.forceCreateSteps s row <;> simp

end Gecs
