/-
`StorageN::force_create`: when it succeeds (`forceCreate_ok_iff`, no invariant needed), what a
success does under the invariant (`Created`), and that it succeeds whenever there is room.
-/
import Gecs.Lemmas.Grow

namespace Gecs
variable {α : Type}

theorem zipWith_push_length {n : Nat} : ∀ (cols : List (List α)) (row : List α),
    (∀ c ∈ cols, c.length = n) → ∀ c ∈ List.zipWith (fun c x => c ++ [x]) cols row, c.length = n + 1
  | [], _, _, c, hc => by simp at hc
  | _ :: _, [], _, c, hc => by simp at hc
  | a :: cols, _ :: row, h, c, hc => by
    simp only [List.zipWith_cons_cons, List.mem_cons] at hc
    rcases hc with rfl | hc
    · simp [h a List.mem_cons_self]
    · exact zipWith_push_length cols row (fun c hc => h c (List.mem_cons_of_mem _ hc)) c hc

theorem forceCreate_ok_iff {cfg : Cfg} {s s' : Storage α} {row : List α} {e : Ent} :
    forceCreate cfg s row = .ok e s' ↔
      ∃ nx, s.freeHead = .free e.slot ∧ s.slots[e.slot]? = some ⟨nx, e.ver⟩ ∧ s.len < cfg.maxCap
        ∧ s' = { s with
            freeHead := nx
            slots := s.slots.set e.slot ⟨.data s.len, e.ver⟩
            len := s.len + 1
            ents := s.ents ++ [e]
            cols := List.zipWith (fun c x => c ++ [x]) s.cols row
            created := if cfg.events then s.created ++ [e] else s.created } := by
  unfold forceCreate
  constructor
  · intro h
    split at h
    · rename_i si hfh
      split at h
      · cases h
      · rename_i sl hsl
        split at h
        · cases h
          exact ⟨sl.idx, hfh, hsl, ‹_›, rfl⟩
        · cases h
    · cases h
  · rintro ⟨nx, hfh, hsl, hlt, rfl⟩
    simp [hfh, hsl, hlt]

/-- What a successful creation (`force_create`, `push`, `push_within_capacity`) of `e` with
components `row` does to a storage. -/
structure Created (cfg : Cfg) (s : Storage α) (row : List α) (e : Ent) (s' : Storage α) : Prop where
  inv : Inv cfg s'
  len : s'.len = s.len + 1
  cap : s.capacity ≤ s'.capacity
  version : s'.version = s.version
  ents : s'.ents = s.ents ++ [e]
  notMem : e ∉ s.ents
  cols : s'.cols = List.zipWith (fun c x => c ++ [x]) s.cols row
  created : s'.created = if cfg.events then s.created ++ [e] else s.created
  destroyed : s'.destroyed = s.destroyed
  slot : s'.slots[e.slot]? = some ⟨.data s.len, e.ver⟩
  frame : ∀ (i : Nat) (sl : Slot), i ≠ e.slot → s.slots[i]? = some sl → s'.slots[i]? = some sl
  wasFree : ∀ sl, s.slots[e.slot]? = some sl → sl.idx.isFree = true ∧ sl.ver = e.ver

/-- `zipWith` truncates: a row shorter than the number of columns drops the surplus columns. -/
theorem Created.cols_length {cfg : Cfg} {s s' : Storage α} {row : List α} {e : Ent}
    (c : Created cfg s row e s') : s'.cols.length = min s.cols.length row.length := by
  rw [c.cols, List.length_zipWith]

theorem Created.cols_length_le {cfg : Cfg} {s s' : Storage α} {row : List α} {e : Ent}
    (c : Created cfg s row e s') : s'.cols.length ≤ s.cols.length :=
  c.cols_length ▸ Nat.min_le_left _ _

theorem forceCreate_created {cfg : Cfg} {s s' : Storage α} {row : List α} {e : Ent}
    (h : Inv cfg s) (hok : forceCreate cfg s row = .ok e s') :
    Created cfg s row e s' ∧ s'.capacity = s.capacity := by
  obtain ⟨nx, hfh, hs, hmax, rfl⟩ := forceCreate_ok_iff.mp hok
  obtain ⟨L, hc, hnd, hlen⟩ := h.chain
  -- the head of the free chain is the slot handed out; the rest of the chain is the new chain
  rw [hfh] at hc
  obtain _ | @⟨_, sl, L', hs', hf, hc'⟩ := hc
  rw [hs] at hs'; cases hs'
  have hnd' := List.nodup_cons.mp hnd
  have hlen' : L'.length + (s.len + 1) = s.capacity := by rw [List.length_cons] at hlen; omega
  have hget := getElem?_set_of_lt (List.getElem?_eq_some_iff.mp hs).1 (⟨.data s.len, e.ver⟩ : Slot)
  have hnew : (s.ents ++ [e])[s.len]? = some e := by
    rw [← h.entsLen, List.getElem?_concat_length]
  refine ⟨{ len := rfl, cap := Nat.le_refl _, version := rfl, ents := rfl, cols := rfl,
            created := rfl, destroyed := rfl, notMem := h.not_mem_of_free hs hf
            slot := (hget _).trans (if_pos rfl)
            frame := fun i sl hne hi => (hget i).trans ((if_neg hne).trans hi)
            wasFree := fun sl hsl => by rw [hs] at hsl; cases hsl; exact ⟨hf, rfl⟩
            inv := ?_ }, rfl⟩
  exact {
    slotsLen := (List.length_set ..).trans h.slotsLen
    entsLen := List.length_append.trans (congrArg (· + 1) h.entsLen)
    colsLen := zipWith_push_length s.cols row h.colsLen
    lenCap := show s.len + 1 ≤ s.capacity from hlen' ▸ Nat.le_add_left _ _
    capMax := h.capMax
    archVer := h.archVer
    chain := ⟨L', hc'.set_not_mem _ _ hnd'.1, hnd'.2, hlen'⟩
    verPos := fun i sl' hi => by
      rw [hget] at hi
      by_cases hi' : i = e.slot
      · rw [if_pos hi'] at hi; cases hi
        exact h.verPos e.slot ⟨nx, e.ver⟩ hs
      · rw [if_neg hi'] at hi
        exact h.verPos i sl' hi
    dense := fun d e' he => by
      show (s.slots.set e.slot _)[e'.slot]? = _
      rw [hget]
      by_cases hd : d < s.ents.length
      · rw [List.getElem?_append_left hd] at he
        -- an old handle does not sit in the slot taken from the free chain
        rw [if_neg fun (heq : e'.slot = e.slot) =>
          h.not_mem_of_free (heq ▸ hs) hf (List.mem_of_getElem? he)]
        exact h.dense d e' he
      · have hd' : d < (s.ents ++ [e]).length := (List.getElem?_eq_some_iff.mp he).1
        rw [List.length_append, List.length_singleton] at hd'
        obtain rfl : d = s.len :=
          h.entsLen ▸ Nat.le_antisymm (Nat.le_of_lt_succ hd') (Nat.not_lt.mp hd)
        rw [hnew] at he; cases he
        rw [if_pos rfl]
    sparse := fun i d v' hi => by
      show (s.ents ++ [e])[d]? = _
      rw [hget] at hi
      by_cases hi' : i = e.slot
      · rw [if_pos hi'] at hi; cases hi
        rw [hi']; exact hnew
      · rw [if_neg hi'] at hi
        have hold := h.sparse i d v' hi
        rw [List.getElem?_append_left (List.getElem?_eq_some_iff.mp hold).1]
        exact hold }

theorem forceCreate_ok {cfg : Cfg} {s : Storage α} (row : List α) (h : Inv cfg s)
    (hlt : s.len < s.capacity) : ∃ e s', forceCreate cfg s row = .ok e s' := by
  obtain ⟨L, hc, _, hlen⟩ := h.chain
  generalize hfh : s.freeHead = fh at hc
  cases hc with
  | nil => simp at hlen; omega
  | @cons si sl L' hs _ _ =>
    exact ⟨⟨si, sl.ver⟩, _, forceCreate_ok_iff.mpr
      ⟨sl.idx, hfh, hs, Nat.lt_of_lt_of_le hlt h.capMax, rfl⟩⟩

theorem forceCreate_not_panic (cfg : Cfg) (s : Storage α) (row : List α) (m : String)
    (s' : Storage α) : forceCreate cfg s row ≠ .panic m s' := by
  unfold forceCreate
  split
  · split
    · simp
    · split <;> simp
  · simp

/-! Non-vacuity: a 3-slot storage with one hole (slot 1 free, slots 0 and 2 live). -/
namespace StorageEx

def holeEx : Storage Nat :=
  ⟨2, 2, 3, .free 1, [⟨.data 0, 1⟩, ⟨.freeEnd, 2⟩, ⟨.data 1, 1⟩], [⟨0, 1⟩, ⟨2, 1⟩],
    [[10, 12], [20, 22]], [], []⟩

theorem holeEx_inv : Inv cfgEx holeEx := (invCheck_iff _ _).mp (by decide)

example : ∃ e s', forceCreate cfgEx holeEx [13, 23] = .ok e s' ∧ Inv cfgEx s' ∧ e = ⟨1, 2⟩ :=
  ⟨_, _, rfl, (forceCreate_created holeEx_inv rfl).1.inv, rfl⟩

-- a row that is too short: the invariant still holds (the surplus column is dropped)
example : ∃ e s', forceCreate cfgEx holeEx [13] = .ok e s' ∧ Inv cfgEx s' :=
  ⟨_, _, rfl, (forceCreate_created holeEx_inv rfl).1.inv⟩

end StorageEx
end Gecs

section
open Gecs
#print axioms forceCreate_created
#print axioms forceCreate_not_panic
end
