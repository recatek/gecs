/-
`Slot::populate_free_list`, from its extracted skeleton and statements (with `Slot::new_free`'s
extracted literal), is the model's `populate` — for every `start < n ≤ MAX_DATA_CAPACITY` and
every previous contents, and for `n = 0`.
-/
import Gecs.Gen.Steps

namespace Gecs

theorem newFree_gen (next : SIdx) : newFreeSlot Gen.slotNewFreeFields next = some ⟨next, VERSION_START⟩ := by
  simp [newFreeSlot, Gen.slotNewFreeFields]

theorem linkCells_spec : ∀ (k i : Nat) (arr : List Slot), i + k ≤ arr.length →
    ∃ arr', linkCells Gen.slotNewFreeFields i k arr = some arr' ∧ arr'.length = arr.length
      ∧ ∀ j, arr'[j]? = if i ≤ j ∧ j < i + k then some ⟨.free (j + 1), VERSION_START⟩ else arr[j]? := by
  intro k
  induction k with
  | zero =>
    intro i arr _
    exact ⟨arr, rfl, rfl, fun j => (if_neg (fun h => Nat.not_lt_of_le h.1 h.2)).symm⟩
  | succ k ih =>
    intro i arr h
    have hi : i < arr.length := Nat.lt_of_lt_of_le (Nat.lt_add_of_pos_right k.succ_pos) h
    obtain ⟨arr', h1, h2, h3⟩ := ih (i + 1) (arr.set i ⟨.free (i + 1), VERSION_START⟩)
      (by rw [List.length_set, Nat.add_right_comm]; exact h)
    refine ⟨arr', ?_, by rw [h2, List.length_set], fun j => ?_⟩
    · rw [linkCells, newFree_gen]
      exact (if_pos hi).trans h1
    · rw [h3 j, List.getElem?_set, if_pos hi]
      by_cases hj : i = j
      · subst hj
        rw [if_neg (fun h => Nat.lt_irrefl _ h.1), if_pos rfl,
          if_pos ⟨Nat.le_refl _, Nat.lt_add_of_pos_right k.succ_pos⟩]
      · have hc : (i + 1 ≤ j ∧ j < i + 1 + k) ↔ (i ≤ j ∧ j < i + (k + 1)) := by omega
        rw [if_neg hj]
        simp only [hc]

theorem gen_populate (maxCap start n : Nat) (old : List Slot) (hs : start < n) (hn : n ≤ maxCap) :
    execPopulate Gen.populateT Gen.slotNewFreeFields maxCap start n old = some (populate start n old) := by
  obtain ⟨m, rfl⟩ : ∃ m, n = m + 1 := ⟨n - 1, by omega⟩
  have hsm : start ≤ m := Nat.le_of_lt_succ hs
  have hlen : ((List.range (m + 1)).map (fun i => old.getD i (⟨.freeEnd, 0⟩ : Slot))).length = m + 1 := by
    rw [List.length_map, List.length_range]
  obtain ⟨arr', h1, h2, h3⟩ := linkCells_spec (m - start) start _ (by rw [hlen]; omega)
  rw [Nat.add_sub_cancel' hsm] at h3
  rw [hlen] at h2
  have hguard : ¬ (start < m ∧ ¬ m < maxCap) := fun h => h.2 hn
  unfold execPopulate populate
  simp only [Gen.populateT, if_true, Nat.succ_pos, runFL, hlen, Nat.add_sub_cancel, Nat.succ_ne_zero,
    if_false, hguard, h1, newFree_gen, h2, Nat.lt_succ_self]
  -- cell by cell: the loop wrote `[start, m)`, the last write cell `m`, and `populate` tests
  -- `j < start` and `j + 1 < m + 1` on the same three ranges
  refine congrArg (fun l => some (l, SIdx.free start)) (List.ext_getElem? fun j => ?_)
  rw [List.getElem?_set, h2, h3 j, List.getElem?_map, List.getElem?_map]
  rcases Nat.lt_trichotomy j m with hj | rfl | hj
  · rw [if_neg (Nat.ne_of_gt hj), List.getElem?_range (Nat.lt_succ_of_lt hj), Option.map_some,
      Option.map_some]
    by_cases hjs : j < start
    · rw [if_neg (fun h => Nat.not_le_of_lt hjs h.1), if_pos hjs]
    · rw [if_pos ⟨Nat.le_of_not_lt hjs, hj⟩, if_neg hjs, if_pos (Nat.succ_lt_succ hj)]
  · rw [if_pos rfl, if_pos (Nat.lt_succ_self _), List.getElem?_range (Nat.lt_succ_self _),
      Option.map_some, if_neg (Nat.not_lt_of_le hsm), if_neg (Nat.lt_irrefl _)]
  · rw [if_neg (Nat.ne_of_lt hj), if_neg (fun h => Nat.lt_asymm hj h.2),
      List.getElem?_eq_none (by rw [List.length_range]; exact hj)]
    rfl

theorem gen_populate_empty (maxCap start : Nat) (old : List Slot) :
    execPopulate Gen.populateT Gen.slotNewFreeFields maxCap start 0 old = some (populate start 0 old) := by
  simp [execPopulate, populate, Gen.populateT]

end Gecs
