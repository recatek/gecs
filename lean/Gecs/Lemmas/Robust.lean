/-
Robustness: what a panic leaves behind (C10) and what the crate features and the build profile
change (C19).

`Inv` reads the configuration only through `maxCap` and `vmax` (`Inv.congr_cfg`).  `RobustEx`
holds the regression witnesses for the statement order of `force_destroy` (C10).  The rest is
C19.

At storage level, erasing the two event vectors (`eraseLogs`) commutes with every operation
(the `*_eraseLogs` equations).  They hold without `Inv`: the event vectors are never read, only
appended to.

The cross-configuration statements of C19 have one shape: configuration `c₂`, run on the
`f`-image of a state, does what `c₁` does on the state, unless the `c₁` outcome is one of the
documented differences (a panic whose message lies in a set `X`, or `ub`).  `StSim X u c₁ c₂ f`
asks this of the storage operations; `stepOp_sim` and `run_sim` lift it through the loops and
the world operations to single operations and to histories.  Three instances:
* `events`: `f = eraseLogs`, nothing excused (`stSim_eraseLogs`).
* `wrapping_version`: `f = id` (`OpsSim`), the two overflow panics excused (`opsSim_wrapping`).
* debug assertions: `f = id`, the `debug_assert` panics and `ub` excused (`opsSim_debug`).
Under `Inv` the excused outcomes do not occur below `vmax`, respectively for keys that are in
range (that keys issued by the API stay in range is `C19_issued_keys_never_trip_debug`,
Props/C19.lean).
-/
import Gecs.Lemmas.StepRun
import Gecs.Lemmas.StoragePaths
import Gecs.Lemmas.CheckSound


namespace Gecs
variable {α σ : Type}

theorem Inv.congr_cfg {cfg cfg' : Cfg} {s : Storage α} (h : Inv cfg s)
    (h1 : cfg'.maxCap = cfg.maxCap) (h2 : cfg'.vmax = cfg.vmax) : Inv cfg' s :=
  { h with
    capMax := by rw [h1]; exact h.capMax
    verPos := by intro i sl hi; rw [h2]; exact h.verPos i sl hi
    archVer := by rw [h2]; exact h.archVer }

theorem Inv.cfg_iff {cfg cfg' : Cfg} {s : Storage α}
    (h1 : cfg'.maxCap = cfg.maxCap) (h2 : cfg'.vmax = cfg.vmax) : Inv cfg' s ↔ Inv cfg s :=
  ⟨fun h => h.congr_cfg h1.symm h2.symm, fun h => h.congr_cfg h1 h2⟩

theorem WInv.congr_cfg {cfg cfg' : Cfg} {w : World α} (h : WInv cfg w)
    (h1 : cfg'.maxCap = cfg.maxCap) (h2 : cfg'.vmax = cfg.vmax) : WInv cfg' w :=
  ⟨h.idsLen, h.idsNodup, h.idsLt, fun s hs => (h.inv s hs).congr_cfg h1 h2⟩

theorem GrowOk.congr_cfg {cfg cfg' : Cfg} {g : Nat → Nat} (h : GrowOk cfg g)
    (h1 : cfg'.maxCap = cfg.maxCap) : GrowOk cfg' g := by
  intro c hc
  rw [h1] at hc ⊢
  exact h c hc

theorem OpsOk.congr_cfg {cfg cfg' : Cfg} (h1 : cfg'.maxCap = cfg.maxCap) :
    ∀ ops : List (Op α), OpsOk cfg ops → OpsOk cfg' ops := by
  intro ops
  induction ops with
  | nil => intro _; trivial
  | cons op ops ih =>
    intro h
    cases op <;> simp only [OpsOk] at h ⊢ <;>
      first | exact ⟨h.1.congr_cfg h1, ih h.2⟩ | exact ih h

/-! ## Regression witnesses for defect F1 (`force_destroy` statement order)

`vmax = 2`, non-wrapping, release build.  Two live entities; the first one (slot 0, dense 0)
is removed. -/
namespace RobustEx

def cfgF1 : Cfg := ⟨8, 2, false, true, false⟩

theorem cfgF1_ok : CfgOk cfgF1 := ⟨by decide⟩

/-- Slot 0 is at generation `vmax`: releasing it overflows the slot version. -/
def slotOvf : Storage Nat :=
  ⟨1, 2, 2, .freeEnd, [⟨.data 0, 2⟩, ⟨.data 1, 1⟩], [⟨0, 2⟩, ⟨1, 1⟩], [[10, 11]], [], []⟩

/-- What the pre-fix statement order leaves behind: handle, column cell and event already
removed / pushed, the moved entity's slot already redirected, slot 0 already on the free list
— but `len` is still 2 and `free_head` does not reach slot 0. -/
def slotOvfBad : Storage Nat :=
  ⟨1, 2, 2, .freeEnd, [⟨.freeEnd, 2⟩, ⟨.data 0, 1⟩], [⟨1, 1⟩], [[11]], [], [⟨0, 2⟩]⟩

/-- The archetype version is at `vmax`: any removal overflows it. -/
def archOvf : Storage Nat :=
  ⟨2, 2, 2, .freeEnd, [⟨.data 0, 1⟩, ⟨.data 1, 1⟩], [⟨0, 1⟩, ⟨1, 1⟩], [[10, 11]], [], []⟩

def archOvfBad : Storage Nat :=
  ⟨2, 2, 2, .freeEnd, [⟨.freeEnd, 2⟩, ⟨.data 0, 1⟩], [⟨1, 1⟩], [[11]], [], [⟨0, 1⟩]⟩

theorem slotOvf_inv : Inv cfgF1 slotOvf := invCheck_sound _ _ (by decide)

theorem archOvf_inv : Inv cfgF1 archOvf := invCheck_sound _ _ (by decide)

theorem slotOvf_prefix :
    forceDestroyPreFix cfgF1 slotOvf 0 0 = .panic "slot version overflow" slotOvfBad := rfl

theorem slotOvf_fixed :
    forceDestroy cfgF1 slotOvf 0 0 = .panic "slot version overflow" slotOvf :=
  forceDestroy_slot_overflow cfgF1 slotOvf 0 0 2 slotOvf_inv rfl (by decide)

theorem archOvf_prefix :
    forceDestroyPreFix cfgF1 archOvf 0 0 = .panic "arch version overflow" archOvfBad := rfl

theorem archOvf_fixed :
    forceDestroy cfgF1 archOvf 0 0 = .panic "arch version overflow" archOvf :=
  forceDestroy_arch_overflow cfgF1 archOvf 0 0 1 archOvf_inv rfl 2 (by decide) (by decide)

/-- In the state left by the pre-fix order, iterating is undefined behaviour as well
(`get_all_slices_mut` needs the data valid up to `len`). -/
theorem slotOvfBad_slices_invalid : slicesValid cfgF1 slotOvfBad = false := rfl

end RobustEx

/-! ## The `events` feature only adds logs: the `*_eraseLogs` equations -/

@[reducible] def eraseLogs (s : Storage α) : Storage α := { s with created := [], destroyed := [] }

@[reducible] def cfgOff (cfg : Cfg) : Cfg := { cfg with events := false }

def Out.mapState {σ τ β : Type} (f : σ → τ) : Out σ β → Out τ β
  | .ok b s => .ok b (f s)
  | .panic m s => .panic m (f s)
  | .ub m => .ub m

def Out.mapVal {σ β γ : Type} (f : β → γ) : Out σ β → Out σ γ
  | .ok b s => .ok (f b) s
  | .panic m s => .panic m s
  | .ub m => .ub m

@[simp] theorem eraseLogs_version (s : Storage α) : (eraseLogs s).version = s.version := rfl
@[simp] theorem eraseLogs_len (s : Storage α) : (eraseLogs s).len = s.len := rfl
@[simp] theorem eraseLogs_capacity (s : Storage α) : (eraseLogs s).capacity = s.capacity := rfl
@[simp] theorem eraseLogs_freeHead (s : Storage α) : (eraseLogs s).freeHead = s.freeHead := rfl
@[simp] theorem eraseLogs_slots (s : Storage α) : (eraseLogs s).slots = s.slots := rfl
@[simp] theorem eraseLogs_ents (s : Storage α) : (eraseLogs s).ents = s.ents := rfl
@[simp] theorem eraseLogs_cols (s : Storage α) : (eraseLogs s).cols = s.cols := rfl
@[simp] theorem eraseLogs_created (s : Storage α) : (eraseLogs s).created = [] := rfl
@[simp] theorem eraseLogs_destroyed (s : Storage α) : (eraseLogs s).destroyed = [] := rfl
@[simp] theorem eraseLogs_idem (s : Storage α) : eraseLogs (eraseLogs s) = eraseLogs s := rfl

@[simp] theorem cfgOff_maxCap (cfg : Cfg) : (cfgOff cfg).maxCap = cfg.maxCap := rfl
@[simp] theorem cfgOff_vmax (cfg : Cfg) : (cfgOff cfg).vmax = cfg.vmax := rfl
@[simp] theorem cfgOff_wrapping (cfg : Cfg) : (cfgOff cfg).wrapping = cfg.wrapping := rfl
@[simp] theorem cfgOff_debug (cfg : Cfg) : (cfgOff cfg).debug = cfg.debug := rfl
@[simp] theorem cfgOff_events (cfg : Cfg) : (cfgOff cfg).events = false := rfl

@[simp] theorem Out.mapState_ok {σ τ β : Type} (f : σ → τ) (b : β) (s : σ) :
    (Out.ok b s : Out σ β).mapState f = .ok b (f s) := rfl
@[simp] theorem Out.mapState_panic {σ τ β : Type} (f : σ → τ) (m : String) (s : σ) :
    (Out.panic m s : Out σ β).mapState f = .panic m (f s) := rfl
@[simp] theorem Out.mapState_ub {σ τ β : Type} (f : σ → τ) (m : String) :
    (Out.ub m : Out σ β).mapState f = .ub m := rfl

theorem nextVer_cfgOff (cfg : Cfg) (v : Nat) : nextVer (cfgOff cfg) v = nextVer cfg v := rfl

theorem forceCreate_eraseLogs (cfg : Cfg) (s : Storage α) (row : List α) :
    (forceCreate cfg s row).mapState eraseLogs = forceCreate (cfgOff cfg) (eraseLogs s) row := by
  unfold forceCreate
  dsimp only [eraseLogs_freeHead, eraseLogs_slots, eraseLogs_len, cfgOff_maxCap]
  cases s.freeHead with
  | data _ => rfl
  | freeEnd => rfl
  | free si =>
    dsimp only
    cases s.slots[si]? with
    | none => rfl
    | some sl =>
      dsimp only
      by_cases h : s.len < cfg.maxCap
      · rw [if_pos h, if_pos h]; rfl
      · rw [if_neg h, if_neg h]; rfl

theorem grow_eraseLogs (cfg : Cfg) (s : Storage α) (nc : Nat) :
    grow (cfgOff cfg) (eraseLogs s) nc = (grow cfg s nc).map eraseLogs := by
  unfold grow
  dsimp only [eraseLogs_capacity, cfgOff_maxCap]
  by_cases h : s.capacity ≥ cfg.maxCap
  · rw [if_pos h, if_pos h]; rfl
  · rw [if_neg h, if_neg h]; rfl

theorem push_eraseLogs (cfg : Cfg) (g : Nat → Nat) (s : Storage α) (row : List α) :
    (push cfg g s row).mapState eraseLogs = push (cfgOff cfg) g (eraseLogs s) row := by
  unfold push
  dsimp only [eraseLogs_len, eraseLogs_capacity]
  by_cases h : s.len ≥ s.capacity
  · rw [if_pos h, if_pos h, grow_eraseLogs]
    cases grow cfg s (g s.capacity) with
    | none => rfl
    | some s' => exact forceCreate_eraseLogs cfg s' row
  · rw [if_neg h, if_neg h]
    exact forceCreate_eraseLogs cfg s row

theorem pushWithin_eraseLogs (cfg : Cfg) (s : Storage α) (row : List α) :
    (pushWithin cfg s row).mapState eraseLogs = pushWithin (cfgOff cfg) (eraseLogs s) row := by
  unfold pushWithin
  dsimp only [eraseLogs_len, eraseLogs_capacity]
  by_cases h : s.len ≥ s.capacity
  · rw [if_pos h, if_pos h]; rfl
  · rw [if_neg h, if_neg h, ← forceCreate_eraseLogs]
    cases forceCreate cfg s row <;> rfl

theorem forceDestroy_eraseLogs (cfg : Cfg) (s : Storage α) (si d : Nat) :
    (forceDestroy cfg s si d).mapState eraseLogs
      = forceDestroy (cfgOff cfg) (eraseLogs s) si d := by
  unfold forceDestroy
  dsimp only [eraseLogs_ents, eraseLogs_len, eraseLogs_cols, eraseLogs_slots, eraseLogs_version,
    eraseLogs_freeHead]
  by_cases hg : s.ents.length ≠ s.len ∨ d ≥ s.len
      ∨ (s.cols.any (fun c => c.length != s.len)) = true
  · rw [if_pos hg, if_pos hg]; rfl
  rw [if_neg hg, if_neg hg]
  cases s.slots[si]? with
  | none => rfl
  | some sl =>
    cases s.ents[d]? with
    | none => rfl
    | some tgt =>
      cases s.ents[s.len - 1]? with
      | none => rfl
      | some lastE =>
        dsimp only
        rw [nextVer_cfgOff, nextVer_cfgOff]
        cases nextVer cfg sl.ver with
        | none => rfl
        | some sv =>
          cases nextVer cfg s.version with
          | none => rfl
          | some av =>
            dsimp only
            cases s.slots[lastE.slot]? with
            | none => rfl
            | some lsl => rfl

/-- For an outcome that hands the state back unchanged, mapping the state is replacing it. -/
theorem Out.mapState_of_withState {σ β : Type} {o : Out σ β} {s : σ} (h : o = o.withState s)
    (f : σ → σ) : o.mapState f = o.withState (f s) := by
  cases o with
  | ok b s1 => cases h; rfl
  | panic m s1 => cases h; rfl
  | ub m => rfl

theorem resolveEntity_eraseLogs (cfg : Cfg) (s : Storage α) (e : Ent) :
    (resolveEntity cfg s e).mapState eraseLogs = resolveEntity (cfgOff cfg) (eraseLogs s) e := by
  rw [resolveEntity_congr (cfg := cfg) (cfg' := cfgOff cfg) (s := s) (s' := eraseLogs s)
    rfl rfl rfl rfl rfl e]
  exact Out.mapState_of_withState (resolveEntity_congr rfl rfl rfl rfl rfl e) _

theorem resolveDirect_eraseLogs (cfg : Cfg) (s : Storage α) (d v : Nat) :
    (resolveDirect cfg s d v).mapState eraseLogs
      = resolveDirect (cfgOff cfg) (eraseLogs s) d v := by
  rw [resolveDirect_congr (cfg := cfg) (cfg' := cfgOff cfg) (s := s) (s' := eraseLogs s)
    rfl rfl rfl rfl rfl rfl d v]
  exact Out.mapState_of_withState (resolveDirect_congr rfl rfl rfl rfl rfl rfl d v) _

theorem writeCell_eraseLogs (s : Storage α) (d c : Nat) (x : α) :
    eraseLogs (writeCell s d c x) = writeCell (eraseLogs s) d c x := rfl

theorem clearEvents_eraseLogs (s : Storage α) : eraseLogs (clearEvents s) = eraseLogs s := rfl

theorem readRow_eraseLogs (s : Storage α) (d : Nat) : readRow (eraseLogs s) d = readRow s d := rfl

/-- `Clone` copies the logs too: erasing them in both the clone and the source is cloning the
log-erased source. -/
theorem cloneStorage_eraseLogs (cl : α → α) (s : Storage α) :
    ((cloneStorage cl s).mapState eraseLogs).mapVal eraseLogs = cloneStorage cl (eraseLogs s) := by
  unfold cloneStorage
  dsimp only [eraseLogs_slots, eraseLogs_capacity, eraseLogs_ents, eraseLogs_len, eraseLogs_cols]
  by_cases h : s.slots.length < s.capacity ∨ s.ents.length < s.len
      ∨ (s.cols.any (fun c => decide (c.length < s.len))) = true
  · rw [if_pos h, if_pos h]; rfl
  · rw [if_neg h, if_neg h]; rfl

theorem dropStorage_eraseLogs (s : Storage α) : dropStorage (eraseLogs s) = dropStorage s := rfl

theorem resolveForAfter_eraseLogs (cfg : Cfg) (s : Storage α)
    (r : Out (Storage α) (Option (Nat × Nat))) :
    (resolveForAfter cfg s r).mapState eraseLogs
      = resolveForAfter (cfgOff cfg) (eraseLogs s) (r.mapState eraseLogs) := by
  cases r with
  | ub m => rfl
  | panic m s1 => rfl
  | ok r s1 =>
    cases r with
    | none => rfl
    | some p =>
      unfold resolveForAfter
      dsimp only [Out.mapState_ok]
      by_cases hc : s.len ≤ cfg.maxCap ∧ p.2 ≤ s.len
      · rw [if_pos hc, if_pos hc]; rfl
      · rw [if_neg hc, if_neg hc]; cases cfg.debug <;> rfl

theorem resolveForEnt_eraseLogs (cfg : Cfg) (s : Storage α) (e : Ent) :
    (resolveForEnt cfg s e).mapState eraseLogs = resolveForEnt (cfgOff cfg) (eraseLogs s) e := by
  rw [resolveForEnt_eq, resolveForEnt_eq, resolveForAfter_eraseLogs, resolveEntity_eraseLogs]

theorem resolveForDirect_eraseLogs (cfg : Cfg) (s : Storage α) (d v : Nat) :
    (resolveForDirect cfg s d v).mapState eraseLogs
      = resolveForDirect (cfgOff cfg) (eraseLogs s) d v := by
  rw [resolveForDirect_eq, resolveForDirect_eq, resolveForAfter_eraseLogs,
    resolveDirect_eraseLogs]

theorem toDirectEnt_eraseLogs (cfg : Cfg) (s : Storage α) (e : Ent) :
    (toDirectEnt cfg s e).mapState eraseLogs = toDirectEnt (cfgOff cfg) (eraseLogs s) e := by
  unfold toDirectEnt
  rw [← resolveEntity_eraseLogs]
  rcases resolveEntity cfg s e with ⟨_ | _, _⟩ | _ | _ <;> rfl

theorem toDirectDirect_eraseLogs (cfg : Cfg) (s : Storage α) (d v : Nat) :
    (toDirectDirect cfg s d v).mapState eraseLogs
      = toDirectDirect (cfgOff cfg) (eraseLogs s) d v := by
  unfold toDirectDirect
  rw [← resolveDirect_eraseLogs]
  rcases resolveDirect cfg s d v with ⟨_ | _, _⟩ | _ | _ <;> rfl

theorem storageResolve_eraseLogs (cfg : Cfg) (s : Storage α) (direct : Bool) (k : Key) :
    (storageResolve cfg s direct k).mapState eraseLogs
      = storageResolve (cfgOff cfg) (eraseLogs s) direct k := by
  cases direct
  · exact resolveForEnt_eraseLogs cfg s _
  · exact resolveForDirect_eraseLogs cfg s _ _

theorem storageToDirect_eraseLogs (cfg : Cfg) (idA : Nat) (s : Storage α) (direct : Bool)
    (k : Key) :
    (storageToDirect cfg idA s direct k).mapState eraseLogs
      = storageToDirect (cfgOff cfg) idA (eraseLogs s) direct k := by
  unfold storageToDirect
  cases direct
  · rw [if_neg Bool.false_ne_true, if_neg Bool.false_ne_true, ← toDirectEnt_eraseLogs]
    rcases toDirectEnt cfg s k.toEnt with ⟨_ | _, _⟩ | _ | _ <;> rfl
  · rw [if_pos rfl, if_pos rfl, ← toDirectDirect_eraseLogs]
    rcases toDirectDirect cfg s k.index k.ver with ⟨_ | _, _⟩ | _ | _ <;> rfl

def World.eraseLogs (w : World α) : World α := { w with archs := w.archs.map Gecs.eraseLogs }

theorem KeyUse.route_cfgOff (cfg : Cfg) (ids : List Nat) (u : KeyUse) :
    u.route (cfgOff cfg) ids = u.route cfg ids := rfl

/-! ## Lifting a configuration difference (`StSim`) to `stepOp` and `run` -/

def Out.excused {τ β : Type} (X : String → Bool) (u : Bool) : Out τ β → Bool
  | .ok _ _ => false
  | .panic m _ => X m
  | .ub _ => u

def WOut.excused {β : Type} (X : String → Bool) (u : Bool) : WOut α β → Bool
  | .ok _ _ => false
  | .panic m _ => X m
  | .ub _ => u

def LoopOut.excused (X : String → Bool) (u : Bool) : LoopOut σ α → Bool
  | .done _ _ => false
  | .stop _ _ => false
  | .panic m _ _ => X m
  | .ub _ => u

def QOut.excused (X : String → Bool) (u : Bool) : QOut σ α → Bool
  | .ok _ _ => false
  | .panic m _ _ => X m
  | .ub _ => u

def FOut.excused {ρ : Type} (X : String → Bool) (u : Bool) : FOut σ α ρ → Bool
  | .ok _ _ _ => false
  | .panic m _ _ => X m
  | .ub _ => u

def Res.excused (X : String → Bool) (u : Bool) : Res α → Bool
  | .ok _ => false
  | .panic m _ => X m
  | .ub _ => u

def Route.excused (X : String → Bool) : Route → Bool
  | .panic m => X m
  | _ => false

def WOut.mapWorld {β : Type} (f : World α → World α) : WOut α β → WOut α β
  | .ok b w => .ok b (f w)
  | .panic m w => .panic m (f w)
  | .ub m => .ub m

def Res.mapWorld (f : World α → World α) : Res α → Res α
  | .ok w => .ok (f w)
  | .panic m w => .panic m (f w)
  | .ub m => .ub m

def LoopOut.mapStorage (f : Storage α → Storage α) : LoopOut σ α → LoopOut σ α
  | .done st s => .done st (f s)
  | .stop st s => .stop st (f s)
  | .panic m st s => .panic m st (f s)
  | .ub m => .ub m

def QOut.mapWorld (f : World α → World α) : QOut σ α → QOut σ α
  | .ok st w => .ok st (f w)
  | .panic m st w => .panic m st (f w)
  | .ub m => .ub m

def FOut.mapWorld {ρ : Type} (f : World α → World α) : FOut σ α ρ → FOut σ α ρ
  | .ok r st w => .ok r st (f w)
  | .panic m st w => .panic m st (f w)
  | .ub m => .ub m

theorem Out.excused_panic {τ β : Type} {X : String → Bool} {u : Bool} {m : String} {s : τ}
    (h : X m = true) : (Out.panic m s : Out τ β).excused X u = true := h

theorem Route.excused_panic {X : String → Bool} {m : String} (h : X m = true) :
    (Route.panic m).excused X = true := h

/-- `c₂` on the `f`-image of a state does what `c₁` does on the state, unless the `c₁` outcome
is excused; `f` changes nothing that the loops and the world operations read themselves. -/
structure StSim (X : String → Bool) (u : Bool) (c₁ c₂ : Cfg) (f : Storage α → Storage α) :
    Prop where
  len : ∀ s, (f s).len = s.len
  version : ∀ s, (f s).version = s.version
  ents : ∀ s, (f s).ents = s.ents
  cols : ∀ s, (f s).cols = s.cols
  slices : ∀ s, slicesValid c₂ (f s) = slicesValid c₁ s
  writeCell : ∀ s d c x, f (writeCell s d c x) = writeCell (f s) d c x
  clearEvents : ∀ s, f (clearEvents s) = clearEvents (f s)
  clone : ∀ cl s, ((cloneStorage cl s).mapState f).mapVal f = cloneStorage cl (f s)
  route : ∀ ids (ku : KeyUse), (ku.route c₁ ids).excused X = false →
    ku.route c₁ ids = ku.route c₂ ids
  routeWorld : ∀ ids h, (Gecs.routeWorld c₁ ids h).excused X = false →
    Gecs.routeWorld c₁ ids h = Gecs.routeWorld c₂ ids h
  push : ∀ g s row, (Gecs.push c₁ g s row).excused X u = false →
    (Gecs.push c₁ g s row).mapState f = Gecs.push c₂ g (f s) row
  pushWithin : ∀ s row, (Gecs.pushWithin c₁ s row).excused X u = false →
    (Gecs.pushWithin c₁ s row).mapState f = Gecs.pushWithin c₂ (f s) row
  sresolve : ∀ s direct k, (storageResolve c₁ s direct k).excused X u = false →
    (storageResolve c₁ s direct k).mapState f = storageResolve c₂ (f s) direct k
  destroyEnt : ∀ s e, (Gecs.destroyEnt c₁ s e).excused X u = false →
    (Gecs.destroyEnt c₁ s e).mapState f = Gecs.destroyEnt c₂ (f s) e
  destroyDirect : ∀ s d v, (Gecs.destroyDirect c₁ s d v).excused X u = false →
    (Gecs.destroyDirect c₁ s d v).mapState f = Gecs.destroyDirect c₂ (f s) d v

variable {X : String → Bool} {u : Bool} {c₁ c₂ : Cfg} {f : Storage α → Storage α}

/-! How a simulation hypothesis is used: after `cases` on the `c₁` outcome it says what the `c₂`
outcome is, given (for a panic or `ub`) that the outcome is not excused. -/

theorem Out.sim_ok {τ β : Type} {g : τ → τ} {o₁ o₂ : Out τ β} {b : β} {s : τ}
    (hs : o₁.excused X u = false → o₁.mapState g = o₂) (h : o₁ = .ok b s) : o₂ = .ok b (g s) := by
  subst h; exact (hs rfl).symm

theorem Out.sim_panic {τ β : Type} {g : τ → τ} {o₁ o₂ : Out τ β} {m : String} {s : τ}
    (hs : o₁.excused X u = false → o₁.mapState g = o₂) (h : o₁ = .panic m s) (hx : X m = false) :
    o₂ = .panic m (g s) := by
  subst h; exact (hs hx).symm

theorem Out.sim_ub {τ β : Type} {g : τ → τ} {o₁ o₂ : Out τ β} {m : String}
    (hs : o₁.excused X u = false → o₁.mapState g = o₂) (h : o₁ = .ub m) (hu : u = false) :
    o₂ = .ub m := by
  subst h; exact (hs hu).symm

/-- The two `destroy` paths simulate where the lookup and `force_destroy` do. -/
theorem destroyAfter_sim {s : Storage α} {r₁ r₂ : Out (Storage α) (Option (Nat × Nat))}
    (hR : r₁.excused X u = false → r₁.mapState f = r₂)
    (hF : ∀ si d, (forceDestroy c₁ s si d).excused X u = false →
      (forceDestroy c₁ s si d).mapState f = forceDestroy c₂ (f s) si d) :
    (destroyAfter c₁ s r₁).excused X u = false →
      (destroyAfter c₁ s r₁).mapState f = destroyAfter c₂ (f s) r₂ := by
  cases r₁ with
  | ub m => intro h; rw [← hR h]; rfl
  | panic m s1 => intro h; rw [← hR h]; rfl
  | ok r s1 =>
    rw [← hR rfl]
    cases r with
    | none => intro _; rfl
    | some p =>
      unfold destroyAfter
      dsimp only [Out.mapState_ok]
      cases hf : forceDestroy c₁ s p.1 p.2 with
      | ok b s' => intro _; rw [Out.sim_ok (hF _ _) hf]; rfl
      | panic m s' => intro h; rw [Out.sim_panic (hF _ _) hf h]; rfl
      | ub m => intro h; rw [Out.sim_ub (hF _ _) hf h]; rfl

namespace StSim

theorem bindArgs (S : StSim X u c₁ c₂ f) (idA : Nat) (s : Storage α) (version idx : Nat)
    (ps : List Param) : bindArgs idA (f s) version idx ps = Gecs.bindArgs idA s version idx ps :=
  Loops.bindArgs_congr idA (f s) s version idx (by rw [S.ents]) (fun c => by rw [S.cols]) ps

theorem readRow (S : StSim X u c₁ c₂ f) (s : Storage α) (d : Nat) :
    readRow (f s) d = Gecs.readRow s d := by
  unfold Gecs.readRow; rw [S.len, S.cols]

theorem applyWrites (S : StSim X u c₁ c₂ f) (idx : Nat) (ps : List Param)
    (ws : List (Option α)) (s : Storage α) :
    applyWrites (f s) idx ps ws = f (Gecs.applyWrites s idx ps ws) := by
  fun_induction Gecs.applyWrites s idx ps ws with
  | case1 s c ps x ws ih => rw [Gecs.applyWrites, ← S.writeCell]; exact ih
  | case2 s p ps w ws hne ih => rw [Gecs.applyWrites]; exact ih; exact hne
  | case3 s ps ws h1 h2 => rw [Gecs.applyWrites]; exact h1; exact h2

theorem sfetch (S : StSim X u c₁ c₂ f) (s : Storage α) (direct : Bool) (k : Key) :
    (storageFetch c₁ s direct k).excused X u = false →
      (storageFetch c₁ s direct k).mapState f = storageFetch c₂ (f s) direct k := by
  unfold storageFetch
  simp only [S.ents, S.readRow]
  have hR := S.sresolve s direct k
  cases hd : storageResolve c₁ s direct k with
  | ub m => intro h; rw [Out.sim_ub hR hd h]; rfl
  | panic m s1 => intro h; rw [Out.sim_panic hR hd h]; rfl
  | ok r s1 =>
    rw [Out.sim_ok hR hd]
    cases r with
    | none => intro _; rfl
    | some d =>
      dsimp only
      cases s.ents[d]? with
      | none => intro _; rfl
      | some e => cases Gecs.readRow s d <;> (intro _; rfl)

theorem sdestroy (S : StSim X u c₁ c₂ f) (s : Storage α) (direct : Bool) (k : Key) :
    (storageDestroy c₁ s direct k).excused X u = false →
      (storageDestroy c₁ s direct k).mapState f = storageDestroy c₂ (f s) direct k := by
  cases direct
  · exact S.destroyEnt s _
  · exact S.destroyDirect s _ _

end StSim

theorem iterLoop_sim (S : StSim X u c₁ c₂ f) (idA : Nat) (ps : List Param)
    (fc : Closure σ α Step) (version : Nat) (idxs : List Nat) (st : σ) (s : Storage α) :
    (iterLoop idA ps fc version idxs st s).mapStorage f
      = iterLoop idA ps fc version idxs st (f s) := by
  fun_induction iterLoop idA ps fc version idxs st s with
  | case1 => rfl
  | case2 idx rest st s hb => rw [iterLoop, S.bindArgs, hb]; rfl
  | case3 idx rest st s args hb st' ws hf =>
    rw [iterLoop, S.bindArgs, hb]; simp only [hf, LoopOut.mapStorage, S.applyWrites]
  | case4 idx rest st s args hb st' ws hf =>
    rw [iterLoop, S.bindArgs, hb]; simp only [hf, LoopOut.mapStorage, S.applyWrites]
  | case5 idx rest st s args hb st' ws hf ih =>
    rw [iterLoop, S.bindArgs, hb]; simp only [hf, S.applyWrites]; exact ih

theorem destroyLoop_sim (S : StSim X u c₁ c₂ f) (idA : Nat) (ps : List Param)
    (fc : Closure σ α Step4) (idxs : List Nat) (st : σ) (s : Storage α) :
    (destroyLoop c₁ idA ps fc idxs st s).excused X u = false →
      (destroyLoop c₁ idA ps fc idxs st s).mapStorage f
        = destroyLoop c₂ idA ps fc idxs st (f s) := by
  induction idxs generalizing st s with
  | nil => intro _; rfl
  | cons idx rest ih =>
    rw [destroyLoop, destroyLoop, S.slices, S.version, S.bindArgs]
    cases slicesValid c₁ s with
    | false => intro _; rfl
    | true =>
      rw [if_pos rfl, if_pos rfl]
      cases Gecs.bindArgs idA s s.version idx ps with
      | none => intro _; rfl
      | some args =>
        dsimp only
        cases fc st args with
        | panic st' ws => intro _; simp only [LoopOut.mapStorage, S.applyWrites]
        | ret st' ws r =>
          simp only [S.applyWrites, S.ents]
          have hD := S.destroyEnt (Gecs.applyWrites s idx ps ws)
          cases r with
          | cont => exact ih st' _
          | brk => intro _; rfl
          | contDestroy | brkDestroy =>
            dsimp only
            cases (Gecs.applyWrites s idx ps ws).ents[idx]? with
            | none => intro _; rfl
            | some e =>
              dsimp only
              cases hd : destroyEnt c₁ (Gecs.applyWrites s idx ps ws) e with
              | ok r s2 =>
                rw [Out.sim_ok (hD e) hd]
                -- after the removal `contDestroy` goes on with the loop, `brkDestroy` stops
                first | exact ih st' s2 | exact fun _ => rfl
              | panic m s2 => intro h; rw [Out.sim_panic (hD e) hd h]; rfl
              | ub m => intro h; rw [Out.sim_ub (hD e) hd h]; rfl

def World.map (f : Storage α → Storage α) (w : World α) : World α :=
  { w with archs := w.archs.map f }

theorem World.map_ids (f : Storage α → Storage α) (w : World α) : (w.map f).ids = w.ids := rfl

theorem World.map_get (f : Storage α → Storage α) (w : World α) (a : Nat) :
    (w.map f).archs[a]? = (w.archs[a]?).map f := by simp [World.map]

theorem World.setArch_map (f : Storage α → Storage α) (w : World α) (a : Nat) (s : Storage α) :
    (w.setArch a s).map f = (w.map f).setArch a (f s) := by
  simp [World.map, World.setArch, List.map_set]

theorem World.map_id : World.map (id : Storage α → Storage α) = id := by
  funext w; simp [World.map]

theorem liftArch_sim {β : Type} (w : World α) (a : Nat) (g₁ g₂ : Storage α → Out (Storage α) β)
    (hg : ∀ s, (g₁ s).excused X u = false → (g₁ s).mapState f = g₂ (f s)) :
    (liftArch w a g₁).excused X u = false →
      (liftArch w a g₁).mapWorld (World.map f) = liftArch (w.map f) a g₂ := by
  unfold liftArch
  rw [World.map_get]
  cases w.archs[a]? with
  | none => intro _; rfl
  | some s =>
    dsimp only [Option.map_some]
    cases hd : g₁ s with
    | ok b s' => intro _; simp only [Out.sim_ok (hg s) hd, WOut.mapWorld, World.setArch_map]
    | panic m s' => intro h; simp only [Out.sim_panic (hg s) hd h, WOut.mapWorld, World.setArch_map]
    | ub m => intro h; rw [Out.sim_ub (hg s) hd h]; rfl

theorem lookup_sim {β : Type} (w : World α) {r₁ r₂ : Route}
    (g₁ g₂ : Storage α → Key → Out (Storage α) (Option β))
    (hr : r₁.excused X = false → r₁ = r₂)
    (hg : ∀ s k, (g₁ s k).excused X u = false → (g₁ s k).mapState f = g₂ (f s) k) :
    (lookup w r₁ g₁).excused X u = false →
      (lookup w r₁ g₁).mapWorld (World.map f) = lookup (w.map f) r₂ g₂ := by
  cases r₁ with
  | absent => intro _; rw [← hr rfl]; rfl
  | panic m => intro h; rw [← hr h]; rfl
  | arch a k => rw [← hr rfl]; exact liftArch_sim w a _ _ (fun s => hg s k)

theorem iterQuery_sim (S : StSim X u c₁ c₂ f) (fc : Closure σ α Step) (q : Query) (st : σ)
    (w : World α) :
    (iterQuery c₁ fc q st w).mapWorld (World.map f) = iterQuery c₂ fc q st (w.map f) := by
  induction q generalizing st w with
  | nil => rfl
  | cons qa rest ih =>
    rw [iterQuery, iterQuery, World.map_get]
    cases w.archs[qa.a]? with
    | none => rfl
    | some s =>
      dsimp only [Option.map_some]
      rw [S.slices, S.version, S.len, World.map_ids, ← iterLoop_sim S]
      cases slicesValid c₁ s with
      | false => rfl
      | true =>
        rw [if_pos rfl, if_pos rfl]
        cases iterLoop (w.ids.getD qa.a ID_RANGE) qa.params fc s.version (List.range s.len) st s with
        | done st' s' => simp only [LoopOut.mapStorage, ← World.setArch_map]; exact ih st' _
        | stop st' s' => simp only [LoopOut.mapStorage, QOut.mapWorld, World.setArch_map]
        | panic m st' s' => simp only [LoopOut.mapStorage, QOut.mapWorld, World.setArch_map]
        | ub m => rfl

theorem iterDestroyQuery_sim (S : StSim X u c₁ c₂ f) (fc : Closure σ α Step4) (q : Query)
    (st : σ) (w : World α) :
    (iterDestroyQuery c₁ fc q st w).excused X u = false →
      (iterDestroyQuery c₁ fc q st w).mapWorld (World.map f)
        = iterDestroyQuery c₂ fc q st (w.map f) := by
  induction q generalizing st w with
  | nil => intro _; rfl
  | cons qa rest ih =>
    rw [iterDestroyQuery, iterDestroyQuery, World.map_get]
    cases w.archs[qa.a]? with
    | none => intro _; rfl
    | some s =>
      dsimp only [Option.map_some]
      rw [S.len, World.map_ids]
      have hL := destroyLoop_sim S (w.ids.getD qa.a ID_RANGE) qa.params fc
        (List.range s.len).reverse st s
      generalize destroyLoop c₁ (w.ids.getD qa.a ID_RANGE) qa.params fc
        (List.range s.len).reverse st s = o at hL ⊢
      cases o with
      | done st' s' =>
        simp only [← hL rfl, LoopOut.mapStorage, ← World.setArch_map]; exact ih st' _
      | stop st' s' =>
        intro _; simp only [← hL rfl, LoopOut.mapStorage, QOut.mapWorld, World.setArch_map]
      | panic m st' s' =>
        intro h; simp only [← hL h, LoopOut.mapStorage, QOut.mapWorld, World.setArch_map]
      | ub m => intro h; rw [← hL h]; rfl

theorem findQuery_sim {ρ : Type} (S : StSim X u c₁ c₂ f) (q : Query) (fc : Closure σ α ρ)
    (hd : Handle) (st : σ) (w : World α) :
    (findQuery c₁ q fc hd st w).excused X u = false →
      (findQuery c₁ q fc hd st w).mapWorld (World.map f) = findQuery c₂ q fc hd st (w.map f) := by
  unfold findQuery
  rw [World.map_ids]
  have hR := S.routeWorld w.ids hd
  cases hr : routeWorld c₁ w.ids hd with
  | absent => rw [hr] at hR; intro _; rw [← hR rfl]; rfl
  | panic m => rw [hr] at hR; intro h; rw [← hR h]; rfl
  | arch a k =>
    rw [hr] at hR; rw [← hR rfl]
    dsimp only
    cases q.find? (fun qa => qa.a == a) with
    | none => intro _; rfl
    | some qa =>
      dsimp only
      rw [World.map_get]
      cases w.archs[a]? with
      | none => intro _; rfl
      | some s =>
        dsimp only [Option.map_some]
        have hS := S.sresolve s hd.kind.isDirect k
        cases hsr : storageResolve c₁ s hd.kind.isDirect k with
        | ub m => intro h; rw [Out.sim_ub hS hsr h]; rfl
        | panic m s1 => intro h; rw [Out.sim_panic hS hsr h]; rfl
        | ok r s1 =>
          rw [Out.sim_ok hS hsr]
          cases r with
          | none => intro _; rfl
          | some d =>
            dsimp only
            rw [S.slices, S.version, S.bindArgs]
            cases slicesValid c₁ s with
            | false => intro _; rfl
            | true =>
              rw [if_pos rfl, if_pos rfl]
              cases Gecs.bindArgs (w.ids.getD a ID_RANGE) s s.version d qa.params with
              | none => intro _; rfl
              | some args =>
                dsimp only
                cases fc st args <;>
                  (intro _; simp only [FOut.mapWorld, World.setArch_map, S.applyWrites])

theorem clone_go_sim (S : StSim X u c₁ c₂ f) (cl : α → α) (w : World α)
    (l acc : List (Storage α)) :
    (World.clone.go cl w l acc).mapVal (World.map f)
      = World.clone.go cl (w.map f) (l.map f) (acc.map f) := by
  induction l generalizing acc with
  | nil => rfl
  | cons s l ih =>
    simp only [List.map_cons, World.clone.go]
    rw [← S.clone]
    cases cloneStorage cl s with
    | ok s' s0 =>
      show (World.clone.go cl w l (acc ++ [s'])).mapVal (World.map f)
        = World.clone.go cl (w.map f) (l.map f) (acc.map f ++ [f s'])
      rw [ih]; simp
    | panic m s0 => rfl
    | ub m => rfl

theorem World.clone_sim (S : StSim X u c₁ c₂ f) (cl : α → α) (w : World α) :
    (w.clone cl).mapVal (World.map f) = (w.map f).clone cl := by
  unfold World.clone
  rw [clone_go_sim S]; rfl

theorem World.clearEvents_map (S : StSim X u c₁ c₂ f) (w : World α) :
    w.clearEvents.map f = (w.map f).clearEvents := by
  simp only [World.clearEvents, World.map, List.map_map]
  congr 1
  exact List.map_congr_left (fun s _ => S.clearEvents s)

theorem Res.ofWOut_sim {β : Type} {F : World α → World α} {o₁ o₂ : WOut α β}
    (h : o₁.excused X u = false → o₁.mapWorld F = o₂) :
    (Res.ofWOut o₁).excused X u = false → (Res.ofWOut o₁).mapWorld F = Res.ofWOut o₂ := by
  cases o₁ <;> (intro hx; rw [← h hx]; rfl)

theorem stepOp_sim (S : StSim X u c₁ c₂ f) (w : World α) (op : Op α) :
    (stepOp c₁ w op).excused X u = false →
      (stepOp c₁ w op).mapWorld (World.map f) = stepOp c₂ (w.map f) op := by
  cases op with
  | create a row g =>
    exact Res.ofWOut_sim (liftArch_sim w a (fun s => push c₁ g s row) (fun s => push c₂ g s row)
      (fun s => S.push g s row))
  | createWithin a row =>
    exact Res.ofWOut_sim (liftArch_sim w a (fun s => pushWithin c₁ s row)
      (fun s => pushWithin c₂ s row) (fun s => S.pushWithin s row))
  | destroy ku =>
    exact Res.ofWOut_sim (lookup_sim w (fun s k => storageDestroy c₁ s ku.h.kind.isDirect k)
      (fun s k => storageDestroy c₂ s ku.h.kind.isDirect k) (S.route w.ids ku)
      (fun s k => S.sdestroy s ku.h.kind.isDirect k))
  | write ku c x =>
    dsimp only [stepOp]
    rw [World.map_ids]
    have h := lookup_sim w (fun s k => storageFetch c₁ s ku.h.kind.isDirect k)
      (fun s k => storageFetch c₂ s ku.h.kind.isDirect k) (S.route w.ids ku)
      (fun s k => S.sfetch s ku.h.kind.isDirect k)
    have hR := S.route w.ids ku
    unfold World.fetch
    cases hd : lookup w (ku.route c₁ w.ids) (fun s k => storageFetch c₁ s ku.h.kind.isDirect k) with
    | panic m w' => rw [hd] at h; intro hx; rw [← h hx]; rfl
    | ub m => rw [hd] at h; intro hx; rw [← h hx]; rfl
    | ok r w' =>
      rw [hd] at h; rw [← h rfl]
      cases r with
      | none => intro _; rfl
      | some t =>
        intro _
        cases hr : ku.route c₁ w.ids with
        | absent => rw [hr] at hR; rw [← hR rfl]; rfl
        | panic m => rw [hr] at hd; cases hd
        | arch a k =>
          rw [hr] at hR; rw [← hR rfl]
          simp only [WOut.mapWorld, World.map_get]
          cases w.archs[a]? with
          | none => rfl
          | some s => simp only [Option.map_some, Res.mapWorld, World.setArch_map, S.writeCell]
  | iter q σ fc st =>
    dsimp only [stepOp]
    rw [← iterQuery_sim S]
    cases iterQuery c₁ fc q st w <;> (intro _; rfl)
  | iterDestroy q σ fc st =>
    dsimp only [stepOp]
    have h := iterDestroyQuery_sim S fc q st w
    generalize iterDestroyQuery c₁ fc q st w = o at h ⊢
    cases o <;> (intro hx; rw [← h hx]; rfl)
  | find q σ fc hd st =>
    dsimp only [stepOp]
    have h := findQuery_sim S q fc hd st w
    generalize findQuery c₁ q fc hd st w = o at h ⊢
    cases o <;> (intro hx; rw [← h hx]; rfl)
  | clearEvents oa =>
    intro _
    cases oa with
    | none => simp only [stepOp, Res.mapWorld, World.clearEvents_map S]
    | some a =>
      simp only [stepOp, World.map_get]
      cases w.archs[a]? with
      | none => rfl
      | some s => simp only [Option.map_some, Res.mapWorld, World.setArch_map, S.clearEvents]
  | cloneSwitch cl =>
    intro _
    dsimp only [stepOp]
    rw [← World.clone_sim S]
    cases w.clone cl <;> rfl

/-- No operation of the `c₁`-run ends in an excused outcome. -/
def Clean (X : String → Bool) (u : Bool) (c : Cfg) : World α → List (Op α) → Prop
  | _, [] => True
  | w, op :: ops =>
    (stepOp c w op).excused X u = false
    ∧ match stepOp c w op with
      | .ok w' => Clean X u c w' ops
      | .panic _ w' => Clean X u c w' ops
      | .ub _ => True

/-- Executable form of `Clean`. -/
def cleanB (X : String → Bool) (u : Bool) (c : Cfg) : World α → List (Op α) → Bool
  | _, [] => true
  | w, op :: ops =>
    (!(stepOp c w op).excused X u)
    && match stepOp c w op with
      | .ok w' => cleanB X u c w' ops
      | .panic _ w' => cleanB X u c w' ops
      | .ub _ => true

theorem Clean.of_cleanB {X : String → Bool} {u : Bool} {c : Cfg} :
    ∀ (ops : List (Op α)) (w : World α), cleanB X u c w ops = true → Clean X u c w ops := by
  intro ops
  induction ops with
  | nil => intro w _; trivial
  | cons op ops ih =>
    intro w h
    simp only [cleanB, Bool.and_eq_true, Bool.not_eq_true'] at h
    refine ⟨h.1, ?_⟩
    cases hs : stepOp c w op with
    | ok w' => rw [hs] at h; exact ih w' h.2
    | panic m w' => rw [hs] at h; exact ih w' h.2
    | ub m => trivial

theorem Clean.of_run_some {X : String → Bool} {c : Cfg} (ops : List (Op α)) (w w' : World α)
    (hr : run c w ops = some w') (hcl : Clean X false c w ops) : Clean X true c w ops := by
  fun_induction run c w ops with
  | case1 => trivial
  | case2 w op ops w1 hs ih => rw [Clean, hs] at hcl ⊢; exact ⟨rfl, ih hr hcl.2⟩
  | case3 w op ops m w1 hs ih => rw [Clean, hs] at hcl ⊢; exact ⟨hcl.1, ih hr hcl.2⟩
  | case4 w op ops m hs => cases hr

theorem run_sim (S : StSim X u c₁ c₂ f) (ops : List (Op α)) (w : World α)
    (h : Clean X u c₁ w ops) : (run c₁ w ops).map (World.map f) = run c₂ (w.map f) ops := by
  fun_induction run c₁ w ops with
  | case1 => rfl
  | case2 w op ops w' hs ih =>
    rw [run, ← stepOp_sim S w op h.1, hs]; rw [Clean, hs] at h; exact ih h.2
  | case3 w op ops m w' hs ih =>
    rw [run, ← stepOp_sim S w op h.1, hs]; rw [Clean, hs] at h; exact ih h.2
  | case4 w op ops m hs => rw [run, ← stepOp_sim S w op h.1, hs]; rfl

theorem Out.excused_never {τ β : Type} (o : Out τ β) : o.excused (fun _ => false) false = false := by
  cases o <;> rfl

theorem WOut.excused_never {β : Type} (o : WOut α β) :
    o.excused (fun _ => false) false = false := by cases o <;> rfl

theorem Res.excused_never (o : Res α) : o.excused (fun _ => false) false = false := by
  cases o <;> rfl

theorem Clean.never (c : Cfg) (ops : List (Op α)) (w : World α) :
    Clean (fun _ => false) false c w ops := by
  fun_induction run c w ops with
  | case1 => trivial
  | case2 w op ops w' hs ih => rw [Clean, hs]; exact ⟨rfl, ih⟩
  | case3 w op ops m w' hs ih => rw [Clean, hs]; exact ⟨rfl, ih⟩
  | case4 w op ops m hs => rw [Clean, hs]; exact ⟨rfl, trivial⟩

theorem World.eraseLogs_eq_map : @World.eraseLogs α = World.map Gecs.eraseLogs := rfl

@[simp] theorem World.eraseLogs_ids (w : World α) : w.eraseLogs.ids = w.ids := rfl

@[simp] theorem World.eraseLogs_get (w : World α) (a : Nat) :
    w.eraseLogs.archs[a]? = (w.archs[a]?).map Gecs.eraseLogs := by
  rw [World.eraseLogs_eq_map]; exact World.map_get _ w a

theorem World.setArch_eraseLogs (w : World α) (a : Nat) (s : Storage α) :
    (w.setArch a s).eraseLogs = w.eraseLogs.setArch a (Gecs.eraseLogs s) := by
  rw [World.eraseLogs_eq_map]; exact World.setArch_map _ w a s

theorem destroyEnt_eraseLogs (cfg : Cfg) (s : Storage α) (e : Ent) :
    (destroyEnt cfg s e).mapState eraseLogs = destroyEnt (cfgOff cfg) (eraseLogs s) e := by
  rw [destroyEnt_eq, destroyEnt_eq]
  exact destroyAfter_sim (fun _ => resolveEntity_eraseLogs cfg s e)
    (fun si d _ => forceDestroy_eraseLogs cfg s si d) (Out.excused_never _)

theorem destroyDirect_eraseLogs (cfg : Cfg) (s : Storage α) (d v : Nat) :
    (destroyDirect cfg s d v).mapState eraseLogs
      = destroyDirect (cfgOff cfg) (eraseLogs s) d v := by
  rw [destroyDirect_eq, destroyDirect_eq]
  exact destroyAfter_sim (fun _ => resolveDirect_eraseLogs cfg s d v)
    (fun si d _ => forceDestroy_eraseLogs cfg s si d) (Out.excused_never _)

theorem stSim_eraseLogs (cfg : Cfg) :
    StSim (α := α) (fun _ => false) false cfg (cfgOff cfg) eraseLogs where
  len := fun _ => rfl
  version := fun _ => rfl
  ents := fun _ => rfl
  cols := fun _ => rfl
  slices := fun _ => rfl
  writeCell := fun _ _ _ _ => rfl
  clearEvents := fun _ => rfl
  clone := fun cl s => cloneStorage_eraseLogs cl s
  route := fun _ _ _ => rfl
  routeWorld := fun _ _ _ => rfl
  push := fun g s row _ => push_eraseLogs cfg g s row
  pushWithin := fun s row _ => pushWithin_eraseLogs cfg s row
  sresolve := fun s d k _ => storageResolve_eraseLogs cfg s d k
  destroyEnt := fun s e _ => destroyEnt_eraseLogs cfg s e
  destroyDirect := fun s d v _ => destroyDirect_eraseLogs cfg s d v

/-- What the lift needs to know about the two configurations at storage level. -/
structure OpsSim (α : Type) (X : String → Bool) (u : Bool) (c₁ c₂ : Cfg) : Prop where
  slices : ∀ s : Storage α, slicesValid c₁ s = slicesValid c₂ s
  push : ∀ (g : Nat → Nat) (s : Storage α) (row : List α), push c₁ g s row = push c₂ g s row
  pushWithin : ∀ (s : Storage α) (row : List α), pushWithin c₁ s row = pushWithin c₂ s row
  route : ∀ (ids : List Nat) (ku : KeyUse),
    (ku.route c₁ ids).excused X = false → ku.route c₁ ids = ku.route c₂ ids
  routeWorld : ∀ (ids : List Nat) (h : Handle),
    (Gecs.routeWorld c₁ ids h).excused X = false → Gecs.routeWorld c₁ ids h = Gecs.routeWorld c₂ ids h
  sresolve : ∀ (s : Storage α) (direct : Bool) (k : Key),
    (storageResolve c₁ s direct k).excused X u = false →
      storageResolve c₁ s direct k = storageResolve c₂ s direct k
  destroyEnt : ∀ (s : Storage α) (e : Ent),
    (Gecs.destroyEnt c₁ s e).excused X u = false → Gecs.destroyEnt c₁ s e = Gecs.destroyEnt c₂ s e
  destroyDirect : ∀ (s : Storage α) (d v : Nat),
    (Gecs.destroyDirect c₁ s d v).excused X u = false →
      Gecs.destroyDirect c₁ s d v = Gecs.destroyDirect c₂ s d v

theorem Out.mapState_id {τ β : Type} (o : Out τ β) : o.mapState id = o := by cases o <;> rfl

theorem Out.mapVal_id {τ β : Type} (o : Out τ β) : o.mapVal id = o := by cases o <;> rfl

theorem Res.mapWorld_id (o : Res α) : o.mapWorld id = o := by cases o <;> rfl

theorem OpsSim.stSim (S : OpsSim α X u c₁ c₂) : StSim X u c₁ c₂ (id : Storage α → Storage α) where
  len := fun _ => rfl
  version := fun _ => rfl
  ents := fun _ => rfl
  cols := fun _ => rfl
  slices := fun s => (S.slices s).symm
  writeCell := fun _ _ _ _ => rfl
  clearEvents := fun _ => rfl
  clone := fun cl s => by rw [Out.mapState_id, Out.mapVal_id]; rfl
  route := S.route
  routeWorld := S.routeWorld
  push := fun g s row _ => (Out.mapState_id _).trans (S.push g s row)
  pushWithin := fun s row _ => (Out.mapState_id _).trans (S.pushWithin s row)
  sresolve := fun s d k h => (Out.mapState_id _).trans (S.sresolve s d k h)
  destroyEnt := fun s e h => (Out.mapState_id _).trans (S.destroyEnt s e h)
  destroyDirect := fun s d v h => (Out.mapState_id _).trans (S.destroyDirect s d v h)

theorem stepOp_agree (S : OpsSim α X u c₁ c₂) (w : World α) (op : Op α)
    (h : (stepOp c₁ w op).excused X u = false) : stepOp c₁ w op = stepOp c₂ w op := by
  have := stepOp_sim S.stSim w op h
  rw [World.map_id, Res.mapWorld_id] at this; exact this

theorem run_agree (S : OpsSim α X u c₁ c₂) (ops : List (Op α)) (w : World α)
    (h : Clean X u c₁ w ops) : run c₁ w ops = run c₂ w ops := by
  have := run_sim S.stSim ops w h
  rw [World.map_id, Option.map_id_fun] at this; exact this

theorem destroyAfter_agree {s : Storage α} {r₁ r₂ : Out (Storage α) (Option (Nat × Nat))}
    (hR : r₁.excused X u = false → r₁ = r₂)
    (hF : ∀ si d, (forceDestroy c₁ s si d).excused X u = false →
      forceDestroy c₁ s si d = forceDestroy c₂ s si d)
    (h : (destroyAfter c₁ s r₁).excused X u = false) :
    destroyAfter c₁ s r₁ = destroyAfter c₂ s r₂ :=
  (Out.mapState_id _).symm.trans (destroyAfter_sim (f := id)
    (fun h => (Out.mapState_id _).trans (hR h))
    (fun si d h => (Out.mapState_id _).trans (hF si d h)) h)

/-- The two documented overflow panics. -/
def isOverflowMsg (m : String) : Bool :=
  m == "slot version overflow" || m == "arch version overflow"

/-! `beq_self_eq_true` decides membership of a literal without comparing characters. -/
theorem isOverflowMsg_slot : isOverflowMsg "slot version overflow" = true := by
  simp only [isOverflowMsg, beq_self_eq_true, Bool.true_or]
theorem isOverflowMsg_arch : isOverflowMsg "arch version overflow" = true := by
  simp only [isOverflowMsg, beq_self_eq_true, Bool.or_true]

theorem nextVer_wrapping_agree (cfg : Cfg) {v : Nat} (h : v < cfg.vmax) :
    nextVer { cfg with wrapping := true } v = nextVer { cfg with wrapping := false } v := by
  rw [nextVer_of_lt _ (by exact h), nextVer_of_lt _ (by exact h)]

theorem nextVer_wrapping_of_checked (cfg : Cfg) {v w : Nat}
    (h : nextVer { cfg with wrapping := false } v = some w) :
    nextVer { cfg with wrapping := true } v = some w :=
  (nextVer_wrapping_agree cfg (nextVer_nowrap (cfg := { cfg with wrapping := false }) rfl h).2).trans h

theorem forceDestroy_agree_wrapping (cfg : Cfg) (s : Storage α) (si d : Nat)
    (h : (forceDestroy { cfg with wrapping := false } s si d).excused isOverflowMsg false = false) :
    forceDestroy { cfg with wrapping := false } s si d
      = forceDestroy { cfg with wrapping := true } s si d := by
  refine Or.resolve_left ?_ (ne_true_of_eq_false h)
  unfold forceDestroy
  by_cases hg : s.ents.length ≠ s.len ∨ d ≥ s.len
      ∨ (s.cols.any (fun c => c.length != s.len)) = true
  · rw [if_pos hg, if_pos hg]; exact .inr rfl
  rw [if_neg hg, if_neg hg]
  cases s.slots[si]? with
  | none => exact .inr rfl
  | some sl =>
    cases s.ents[d]? with
    | none => exact .inr rfl
    | some tgt =>
      cases s.ents[s.len - 1]? with
      | none => exact .inr rfl
      | some lastE =>
        dsimp only
        cases hv1 : nextVer { cfg with wrapping := false } sl.ver with
        | none => exact .inl (Out.excused_panic isOverflowMsg_slot)
        | some sv =>
          rw [nextVer_wrapping_of_checked cfg hv1]
          cases hv2 : nextVer { cfg with wrapping := false } s.version with
          | none => exact .inl (Out.excused_panic isOverflowMsg_arch)
          | some av => rw [nextVer_wrapping_of_checked cfg hv2]; exact .inr rfl

theorem opsSim_wrapping (cfg : Cfg) :
    OpsSim α isOverflowMsg false { cfg with wrapping := false } { cfg with wrapping := true } where
  slices := fun _ => rfl
  push := fun _ _ _ => rfl
  pushWithin := fun _ _ => rfl
  route := fun _ _ _ => rfl
  routeWorld := fun _ _ _ => rfl
  sresolve := fun _ _ _ _ => rfl
  destroyEnt := fun s _ => destroyAfter_agree (fun _ => rfl) (forceDestroy_agree_wrapping cfg s)
  destroyDirect := fun s _ _ => destroyAfter_agree (fun _ => rfl) (forceDestroy_agree_wrapping cfg s)

/-! Under `Inv` the overflow panics occur only at `vmax`. -/

theorem forceDestroy_ok_below_vmax {cfg : Cfg} {s : Storage α} (h : Inv cfg s) {d : Nat} {t : Ent}
    (hd : s.ents[d]? = some t) (h1 : t.ver < cfg.vmax) (h2 : s.version < cfg.vmax) :
    ∃ row s', forceDestroy cfg s t.slot d = .ok row s' := by
  rcases forceDestroy_outcome h hd with ⟨row, s', hok, _⟩ | ⟨_, hn⟩ | ⟨_, hn⟩
  · exact ⟨row, s', hok⟩
  · rw [nextVer_of_lt cfg h1] at hn; cases hn
  · rw [nextVer_of_lt cfg h2] at hn; cases hn

theorem Out.miss_not_overflow {β : Type} (s : Storage α) (P : Prop) [Decidable P] :
    (Out.miss s P : Out (Storage α) (Option β)).excused isOverflowMsg false = false := by
  unfold Out.miss
  split
  · -- reduce `excused` by its equation first: `show` would evaluate the string comparisons
    rw [Out.excused]
    simp only [isOverflowMsg, Bool.or_eq_false_iff, beq_eq_false_iff_ne, ne_eq, String.reduceEq,
      not_false_eq_true, and_self]
  · rfl

theorem destroyEnt_no_overflow_below_vmax {cfg : Cfg} {s : Storage α} (h : Inv cfg s) (e : Ent)
    (h1 : e.ver < cfg.vmax) (h2 : s.version < cfg.vmax) :
    (destroyEnt cfg s e).excused isOverflowMsg false = false := by
  by_cases hm : e ∈ s.ents
  · obtain ⟨d, hd⟩ := List.getElem?_of_mem hm
    obtain ⟨row, s', hok⟩ := forceDestroy_ok_below_vmax h hd h1 h2
    rw [destroyEnt_eq, resolveEntity_of_mem h hd, destroyAfter, hok]; rfl
  · rw [destroyEnt_eq, resolveEntity_of_not_mem h hm, destroyAfter_miss]
    exact Out.miss_not_overflow s _

theorem destroyDirect_no_overflow_below_vmax {cfg : Cfg} {s : Storage α} (h : Inv cfg s)
    (d v : Nat) (h1 : ∀ t, s.ents[d]? = some t → t.ver < cfg.vmax) (h2 : s.version < cfg.vmax) :
    (destroyDirect cfg s d v).excused isOverflowMsg false = false := by
  by_cases hc : v = s.version ∧ d < s.len
  · obtain ⟨rfl, hd⟩ := hc
    have hd := List.getElem?_eq_getElem (h.entsLen ▸ hd : d < s.ents.length)
    obtain ⟨row, s', hok⟩ := forceDestroy_ok_below_vmax h hd (h1 _ hd) h2
    rw [destroyDirect_eq, resolveDirect_of_lt h hd, destroyAfter, hok]; rfl
  · rw [destroyDirect_eq, resolveDirect_of_not hc, destroyAfter_miss]
    exact Out.miss_not_overflow s _

/-- The messages of the model's `debug_assert!` / `debug_checked_assume!` sites. -/
def isDebugMsg (m : String) : Bool :=
  m == "debug_assert: invalid entity handle" || m == "debug_assert: lookup mismatch"
  || m == "debug_assert: dense_index < len" || m == "debug_assert: slot mismatch"
  || m == "debug_assert: slot_index < capacity" || m == "debug_checked_assume"
  || m == "debug_assert: from_any_unchecked"

theorem isDebugMsg_invalid_handle : isDebugMsg "debug_assert: invalid entity handle" = true := by
  simp only [isDebugMsg, beq_self_eq_true, Bool.true_or]
theorem isDebugMsg_lookup_mismatch : isDebugMsg "debug_assert: lookup mismatch" = true := by
  simp only [isDebugMsg, beq_self_eq_true, Bool.or_true, Bool.true_or]
theorem isDebugMsg_dense_lt_len : isDebugMsg "debug_assert: dense_index < len" = true := by
  simp only [isDebugMsg, beq_self_eq_true, Bool.or_true, Bool.true_or]
theorem isDebugMsg_slot_mismatch : isDebugMsg "debug_assert: slot mismatch" = true := by
  simp only [isDebugMsg, beq_self_eq_true, Bool.or_true, Bool.true_or]
theorem isDebugMsg_slot_lt_capacity : isDebugMsg "debug_assert: slot_index < capacity" = true := by
  simp only [isDebugMsg, beq_self_eq_true, Bool.or_true, Bool.true_or]
theorem isDebugMsg_assume : isDebugMsg "debug_checked_assume" = true := by
  simp only [isDebugMsg, beq_self_eq_true, Bool.or_true, Bool.true_or]
theorem isDebugMsg_from_any : isDebugMsg "debug_assert: from_any_unchecked" = true := by
  simp only [isDebugMsg, beq_self_eq_true, Bool.or_true]

/-- What the debug build adds to `resolve_entity`: nothing, or one of its assertions, or an
access the release build does not make (`ub`). -/
theorem resolveEntity_agree_debug (cfg : Cfg) (s : Storage α) (e : Ent)
    (h : (resolveEntity { cfg with debug := true } s e).excused isDebugMsg true = false) :
    resolveEntity { cfg with debug := true } s e = resolveEntity { cfg with debug := false } s e := by
  refine Or.resolve_left ?_ (ne_true_of_eq_false h)
  unfold resolveEntity
  by_cases h0 : s.len = 0
  · rw [if_pos h0, if_pos h0]; exact .inr rfl
  rw [if_neg h0, if_neg h0]
  by_cases hcap : e.slot ≥ s.capacity
  · rw [if_pos hcap]; exact .inl (Out.excused_panic isDebugMsg_invalid_handle)
  rw [if_neg hcap, if_neg hcap]
  cases s.slots[e.slot]? with
  | none => exact .inr rfl
  | some sl =>
    dsimp only
    by_cases hv : (sl.ver ≠ e.ver || sl.idx.isFree) = true
    · rw [if_pos hv, if_pos hv]; exact .inr rfl
    rw [if_neg hv, if_neg hv]
    cases sl.idx with
    | free _ => exact .inr rfl
    | freeEnd => exact .inr rfl
    | data d =>
      dsimp only
      rw [if_pos rfl]
      by_cases hd : d < s.len
      · rw [if_pos hd]
        cases s.ents[d]? with
        | none => exact .inl rfl
        | some l =>
          dsimp only
          by_cases hle : l = e
          · rw [if_pos hle]; exact .inr rfl
          · rw [if_neg hle]; exact .inl (Out.excused_panic isDebugMsg_lookup_mismatch)
      · rw [if_neg hd]; exact .inl (Out.excused_panic isDebugMsg_dense_lt_len)

theorem resolveDirect_agree_debug (cfg : Cfg) (s : Storage α) (d v : Nat)
    (h : (resolveDirect { cfg with debug := true } s d v).excused isDebugMsg true = false) :
    resolveDirect { cfg with debug := true } s d v
      = resolveDirect { cfg with debug := false } s d v := by
  refine Or.resolve_left ?_ (ne_true_of_eq_false h)
  unfold resolveDirect
  by_cases h0 : s.len = 0
  · rw [if_pos h0, if_pos h0]; exact .inr rfl
  rw [if_neg h0, if_neg h0]
  by_cases hv : v ≠ s.version
  · rw [if_pos hv, if_pos hv]; exact .inr rfl
  rw [if_neg hv, if_neg hv]
  by_cases hd : d ≥ s.len
  · rw [if_pos hd]; exact .inl (Out.excused_panic isDebugMsg_invalid_handle)
  rw [if_neg hd, if_neg hd]
  cases s.ents[d]? with
  | none => exact .inr rfl
  | some t =>
    dsimp only
    rw [if_pos rfl]
    by_cases hc : t.slot < s.capacity
    · rw [if_pos hc]
      cases s.slots[t.slot]? with
      | none => exact .inl rfl
      | some sl =>
        dsimp only
        by_cases hm : sl.ver = t.ver ∧ sl.idx.isFree = false
        · rw [if_pos hm]; exact .inr rfl
        · rw [if_neg hm]; exact .inl (Out.excused_panic isDebugMsg_slot_mismatch)
    · rw [if_neg hc]; exact .inl (Out.excused_panic isDebugMsg_slot_lt_capacity)

theorem resolveForAfter_agree_debug (cfg : Cfg) (s : Storage α)
    {r₁ r₂ : Out (Storage α) (Option (Nat × Nat))}
    (hR : r₁.excused isDebugMsg true = false → r₁ = r₂) :
    (resolveForAfter { cfg with debug := true } s r₁).excused isDebugMsg true = false →
    resolveForAfter { cfg with debug := true } s r₁
      = resolveForAfter { cfg with debug := false } s r₂ := by
  cases r₁ with
  | ub m => intro h; rw [← hR h]; rfl
  | panic m s1 => intro h; rw [← hR h]; rfl
  | ok r s1 =>
    rw [← hR rfl]
    cases r with
    | none => intro _; rfl
    | some p =>
      unfold resolveForAfter
      dsimp only
      by_cases hc : s.len ≤ cfg.maxCap ∧ p.2 ≤ s.len
      · rw [if_pos hc, if_pos hc]; intro _; rfl
      · rw [if_neg hc]
        intro h; exact absurd (Out.excused_panic isDebugMsg_assume) (ne_true_of_eq_false h)

theorem storageResolve_agree_debug (cfg : Cfg) (s : Storage α) (direct : Bool) (k : Key)
    (h : (storageResolve { cfg with debug := true } s direct k).excused isDebugMsg true = false) :
    storageResolve { cfg with debug := true } s direct k
      = storageResolve { cfg with debug := false } s direct k := by
  cases direct
  · exact resolveForAfter_agree_debug cfg s (resolveEntity_agree_debug cfg s _) h
  · exact resolveForAfter_agree_debug cfg s (resolveDirect_agree_debug cfg s _ _) h

theorem routeWorld_agree_debug (cfg : Cfg) (ids : List Nat) (hd : Handle)
    (h : (routeWorld { cfg with debug := true } ids hd).excused isDebugMsg = false) :
    routeWorld { cfg with debug := true } ids hd = routeWorld { cfg with debug := false } ids hd := by
  refine Or.resolve_left ?_ (ne_true_of_eq_false h)
  unfold routeWorld
  cases hd.kind.isTyped with
  | true => exact .inr rfl
  | false =>
    rw [if_neg Bool.false_ne_true, if_neg Bool.false_ne_true]
    cases selectArch ids hd.key.archId with
    | none => exact .inr rfl
    | some a =>
      dsimp only
      rw [fromAnyUnchecked_release (cfg := { cfg with debug := false }) _ _ rfl]
      unfold fromAnyUnchecked
      by_cases hm : hd.key.archId = ids.getD a ID_RANGE
      · rw [if_neg (fun h => h.2 hm)]; exact .inr rfl
      · rw [if_pos ⟨rfl, hm⟩]; exact .inl (Route.excused_panic isDebugMsg_from_any)

theorem KeyUse.route_agree_debug (cfg : Cfg) (ids : List Nat) (ku : KeyUse)
    (h : (ku.route { cfg with debug := true } ids).excused isDebugMsg = false) :
    ku.route { cfg with debug := true } ids = ku.route { cfg with debug := false } ids := by
  refine Or.resolve_left ?_ (ne_true_of_eq_false h)
  unfold KeyUse.route
  dsimp only
  have hW : ∀ (hh : Handle) (r : Route),
      (if ku.worldLevel = true then routeWorld { cfg with debug := true } ids hh else r).excused
          isDebugMsg = true
      ∨ (if ku.worldLevel = true then routeWorld { cfg with debug := true } ids hh else r)
          = if ku.worldLevel = true then routeWorld { cfg with debug := false } ids hh else r := by
    intro hh r
    cases ku.worldLevel with
    | true => exact (Bool.eq_false_or_eq_true _).imp_right (routeWorld_agree_debug cfg ids hh)
    | false => exact .inr rfl
  cases ku.typed with
  | true =>
    rw [if_pos rfl, if_pos rfl, if_neg (c := false = true ∧ _) (fun h => Bool.false_ne_true h.1)]
    by_cases hm : ku.h.key.archId = ids.getD (ku.at_.getD ku.h.a) ID_RANGE
    · rw [if_neg (fun h => h.2 hm)]; exact hW _ _
    · rw [if_pos ⟨rfl, hm⟩]; exact .inl (Route.excused_panic isDebugMsg_from_any)
  | false => rw [if_neg Bool.false_ne_true, if_neg Bool.false_ne_true]; exact hW _ _

/-- The model's `forceDestroy` does not read `cfg.debug` (the `debug_assert!`s at the head of
`force_destroy` are not modelled), so the two `destroy` paths differ only through the lookup. -/
theorem opsSim_debug (cfg : Cfg) :
    OpsSim α isDebugMsg true { cfg with debug := true } { cfg with debug := false } where
  slices := fun _ => rfl
  push := fun _ _ _ => rfl
  pushWithin := fun _ _ => rfl
  route := KeyUse.route_agree_debug cfg
  routeWorld := routeWorld_agree_debug cfg
  sresolve := storageResolve_agree_debug cfg
  destroyEnt := fun s e =>
    destroyAfter_agree (resolveEntity_agree_debug cfg s e) (fun _ _ _ => rfl)
  destroyDirect := fun s d v =>
    destroyAfter_agree (resolveDirect_agree_debug cfg s d v) (fun _ _ _ => rfl)

/-! Under `Inv` a lookup by a key that is in range returns normally in every configuration: no
debug assertion fires, and the two profiles agree. -/

theorem resolveEntity_ok_of_in_range {cfg : Cfg} {s : Storage α} (h : Inv cfg s) (e : Ent)
    (hk : e.slot < s.capacity ∨ s.len = 0) : ∃ r, resolveEntity cfg s e = .ok r s := by
  rcases resolveEntity_spec cfg s e h with h1 | ⟨_, h1, _⟩ | ⟨_, _, _, h0, hcap, _⟩
  · exact ⟨_, h1⟩
  · exact ⟨_, h1⟩
  · omega

theorem resolveEntity_agree_debug_of_in_range {cfg : Cfg} {s : Storage α} (h : Inv cfg s) (e : Ent)
    (hk : e.slot < s.capacity ∨ s.len = 0) :
    resolveEntity { cfg with debug := true } s e = resolveEntity { cfg with debug := false } s e := by
  obtain ⟨r, hr⟩ := resolveEntity_ok_of_in_range (cfg := { cfg with debug := true })
    (h.congr_cfg rfl rfl) e hk
  exact resolveEntity_agree_debug cfg s e (by rw [hr]; rfl)

theorem resolveDirect_ok_of_in_range {cfg : Cfg} {s : Storage α} (h : Inv cfg s) (d v : Nat)
    (hk : d < s.len ∨ v ≠ s.version ∨ s.len = 0) : ∃ r, resolveDirect cfg s d v = .ok r s := by
  rcases resolveDirect_spec cfg s d v h with h1 | ⟨_, h1, _⟩ | ⟨_, _, _, h0, hv, hd, _⟩
  · exact ⟨_, h1⟩
  · exact ⟨_, h1⟩
  · omega

theorem resolveDirect_agree_debug_of_in_range {cfg : Cfg} {s : Storage α} (h : Inv cfg s) (d v : Nat)
    (hk : d < s.len ∨ v ≠ s.version ∨ s.len = 0) :
    resolveDirect { cfg with debug := true } s d v
      = resolveDirect { cfg with debug := false } s d v := by
  obtain ⟨r, hr⟩ := resolveDirect_ok_of_in_range (cfg := { cfg with debug := true })
    (h.congr_cfg rfl rfl) d v hk
  exact resolveDirect_agree_debug cfg s d v (by rw [hr]; rfl)

end Gecs

section
open Gecs
#print axioms Inv.congr_cfg
#print axioms Inv.cfg_iff
#print axioms RobustEx.slotOvf_inv
#print axioms RobustEx.slotOvf_prefix
#print axioms RobustEx.slotOvf_fixed
#print axioms RobustEx.archOvf_prefix
#print axioms RobustEx.archOvf_fixed
#print axioms forceCreate_eraseLogs
#print axioms push_eraseLogs
#print axioms pushWithin_eraseLogs
#print axioms forceDestroy_eraseLogs
#print axioms resolveEntity_eraseLogs
#print axioms resolveDirect_eraseLogs
#print axioms destroyEnt_eraseLogs
#print axioms destroyDirect_eraseLogs
#print axioms cloneStorage_eraseLogs
#print axioms nextVer_wrapping_agree
#print axioms resolveEntity_agree_debug_of_in_range
#print axioms resolveDirect_agree_debug_of_in_range
#print axioms stepOp_agree
#print axioms run_agree
#print axioms forceDestroy_agree_wrapping
#print axioms resolveEntity_agree_debug
#print axioms resolveDirect_agree_debug
#print axioms KeyUse.route_agree_debug
#print axioms Clean.of_cleanB
#print axioms destroyEnt_no_overflow_below_vmax
#print axioms destroyDirect_no_overflow_below_vmax
end
