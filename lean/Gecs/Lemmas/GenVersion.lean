/-
The version step TRANSLATED from src/version.rs on every run (Gecs/Gen/Exprs.lean:
`slotVersionNextWrapping`, `slotVersionNextChecked`, `archVersionNextWrapping`,
`archVersionNextChecked` — the two `#[cfg]`-selected field initialisers of `SlotVersion::next`
and of `ArchetypeVersion::next`, `none` = the documented overflow panic) is the model's `nextVer`
(Model/Storage.lean) for every version a `NonZeroU32` can hold.
-/
import Gecs.Gen.Exprs
import Gecs.Lemmas.GenTie
import Gecs.Model.Storage

namespace Gecs

/-- The four translated initialisers on a `u32`: below `u32::MAX` all add one; at `u32::MAX`
`checked_add(1)` overflows (`none`) and `NonZeroU32::new(wrapping_add(1))` is `None`, replaced by
the start generation. -/
theorem gen_version_next (v : Nat) (hv : v ≤ 4294967295) :
    Gen.slotVersionNextChecked v = (if v < 4294967295 then some (v + 1) else none)
      ∧ Gen.archVersionNextChecked v = (if v < 4294967295 then some (v + 1) else none)
      ∧ Gen.slotVersionNextWrapping v = some (if v < 4294967295 then v + 1 else VERSION_START)
      ∧ Gen.archVersionNextWrapping v = some (if v < 4294967295 then v + 1 else VERSION_START) := by
  unfold Gen.slotVersionNextWrapping Gen.slotVersionNextChecked
    Gen.archVersionNextWrapping Gen.archVersionNextChecked
  rw [gen_version_start]
  by_cases hlt : v < 4294967295
  · have h1 : (v + 1) % 4294967296 = v + 1 := Nat.mod_eq_of_lt (Nat.succ_lt_succ hlt)
    rw [h1, if_pos hlt, if_pos hlt, if_pos (Nat.succ_lt_succ hlt), if_neg (Nat.succ_ne_zero v)]
    exact ⟨rfl, rfl, rfl, rfl⟩
  · cases Nat.le_antisymm hv (Nat.le_of_not_lt hlt)
    exact ⟨rfl, rfl, rfl, rfl⟩

/-- For `vmax = u32::MAX`: with `wrapping_version` the model's step is the translated wrapping
initialiser, without it the translated checked one — for the slot generation and for the
archetype version alike. -/
theorem gen_version_step (cfg : Cfg) (v : Nat) (hmax : cfg.vmax = 4294967295) (hv : v ≤ cfg.vmax) :
    nextVer cfg v = (if cfg.wrapping then Gen.slotVersionNextWrapping v else Gen.slotVersionNextChecked v)
      ∧ nextVer cfg v = (if cfg.wrapping then Gen.archVersionNextWrapping v else Gen.archVersionNextChecked v) := by
  rw [hmax] at hv
  obtain ⟨h1, h2, h3, h4⟩ := gen_version_next v hv
  unfold nextVer
  rw [hmax, h1, h2, h3, h4]
  by_cases hlt : v < 4294967295
  · simp only [if_pos hlt, ite_self, and_self]
  · simp only [if_neg hlt, and_self]

/-- Consequences in the words of the properties: without the feature the step panics exactly at
`u32::MAX` (C08 / C10: nothing is reissued, nothing changes), with it the step returns to the
start generation there (C19: the documented exception), and below `u32::MAX` both add one. -/
theorem gen_version_step_spec (v : Nat) (hv : v ≤ 4294967295) :
    (Gen.slotVersionNextChecked v = none ↔ v = 4294967295)
      ∧ (Gen.archVersionNextChecked v = none ↔ v = 4294967295)
      ∧ (v < 4294967295 → Gen.slotVersionNextChecked v = some (v + 1) ∧ Gen.slotVersionNextWrapping v = some (v + 1)
            ∧ Gen.archVersionNextChecked v = some (v + 1) ∧ Gen.archVersionNextWrapping v = some (v + 1))
      ∧ Gen.slotVersionNextWrapping 4294967295 = some VERSION_START
      ∧ Gen.archVersionNextWrapping 4294967295 = some VERSION_START := by
  obtain ⟨h1, h2, h3, h4⟩ := gen_version_next v hv
  have hnone : (if v < 4294967295 then some (v + 1) else none) = none ↔ v = 4294967295 := by
    by_cases hlt : v < 4294967295
    · rw [if_pos hlt]; exact ⟨fun e => (nomatch e), fun e => absurd hlt (e ▸ Nat.lt_irrefl _)⟩
    · rw [if_neg hlt]; exact ⟨fun _ => Nat.le_antisymm hv (Nat.le_of_not_lt hlt), fun _ => rfl⟩
  rw [h1, h2, h3, h4]
  refine ⟨hnone, hnone, fun hlt => ?_, by decide, by decide⟩
  rw [if_pos hlt, if_pos hlt]
  exact ⟨rfl, rfl, rfl, rfl⟩

-- non-vacuity at the boundary
example : Gen.slotVersionNextChecked 4294967295 = none := by decide
example : Gen.slotVersionNextChecked 4294967294 = some 4294967295 := by decide
example : Gen.archVersionNextWrapping 4294967295 = some 1 := by decide
-- a step other than the code's is told apart from the model's: a saturating add never panics at `u32::MAX`
example : (fun v : Nat => (some (min (v + 1) 4294967295) : Option Nat)) 4294967295 ≠ none := by decide

end Gecs
