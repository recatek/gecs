/-
`populate` (slot.rs `populate_free_list`), `withCapacity` and `grow` establish / preserve the
representation invariant.  `with_capacity` ends in `Storage.grown` of the empty storage, the state
`grow` produces, so there is one invariant proof (`Inv.grown`).
-/
import Gecs.Lemmas.CheckSound

namespace Gecs
variable {α : Type}

/-- The slot written by `populate` at a fresh position `i` of a table of `n` cells. -/
def freshSlot (n i : Nat) : Slot :=
  if i + 1 < n then ⟨.free (i + 1), VERSION_START⟩ else ⟨.freeEnd, VERSION_START⟩

theorem freshSlot_isFree (n i : Nat) : (freshSlot n i).idx.isFree = true := by
  unfold freshSlot; split <;> rfl

theorem freshSlot_ver (n i : Nat) : (freshSlot n i).ver = VERSION_START := by
  unfold freshSlot; split <;> rfl

theorem populate_pos {start n : Nat} (old : List Slot) (hn : 0 < n) :
    populate start n old =
      ((List.range n).map fun i =>
          if i < start then old.getD i ⟨.freeEnd, 0⟩ else freshSlot n i,
        .free start) := by
  simp [populate, hn, freshSlot]

theorem populate_length {start n : Nat} (old : List Slot) (hn : 0 < n) :
    (populate start n old).1.length = n := by
  rw [populate_pos old hn, List.length_map, List.length_range]

theorem populate_head {start n : Nat} (old : List Slot) (hn : 0 < n) :
    (populate start n old).2 = .free start := by
  rw [populate_pos old hn]

theorem populate_getElem?_lt {start n i : Nat} {old : List Slot} (hi : i < start)
    (hs : start < n) (ho : start ≤ old.length) : (populate start n old).1[i]? = old[i]? := by
  have : i < old.length := by omega
  simp [populate_pos old (by omega : 0 < n), show i < n by omega, hi, this]

theorem populate_getElem?_ge {start n i : Nat} {old : List Slot} (hi : start ≤ i) (hn : i < n) :
    (populate start n old).1[i]? = some (freshSlot n i) := by
  simp [populate_pos old (by omega : 0 < n), hn, show ¬ i < start by omega]

/-- Fresh cells `[a, n)` form the chain `a → a+1 → … → n-1 → end`. -/
theorem chain_fresh {sl : List Slot} {n : Nat} :
    ∀ (k a : Nat), a + k = n → (∀ i, a ≤ i → i < n → sl[i]? = some (freshSlot n i)) →
      Chain sl (if k = 0 then .freeEnd else .free a) (List.range' a k)
  | 0, _, _, _ => .nil
  | k + 1, a, hk, hf => by
    have := chain_fresh k (a + 1) (by omega) fun i h1 h2 => hf i (by omega) h2
    refine .cons (hf a (Nat.le_refl _) (by omega)) (freshSlot_isFree n a) ?_
    unfold freshSlot
    by_cases h0 : k = 0
    · simpa [h0, show ¬ a + 1 < n by omega] using this
    · simpa [h0, show a + 1 < n by omega] using this

/-- The state after `grow` to `nc` cells. -/
def Storage.grown (s : Storage α) (nc : Nat) : Storage α :=
  { s with slots := (populate s.len nc s.slots).1, freeHead := (populate s.len nc s.slots).2,
           capacity := nc }

theorem grow_eq (cfg : Cfg) (s : Storage α) (nc : Nat) :
    grow cfg s nc = if s.capacity ≥ cfg.maxCap then none else some (s.grown nc) := rfl

theorem grown_slots_lt {cfg : Cfg} {s : Storage α} {nc i : Nat} (h : Inv cfg s)
    (hfull : s.len = s.capacity) (hlt : s.capacity < nc) (hi : i < s.capacity) :
    (s.grown nc).slots[i]? = s.slots[i]? :=
  populate_getElem?_lt (by omega) (by omega) (by rw [h.slotsLen]; omega)

theorem Inv.grown {cfg : Cfg} {s : Storage α} {nc : Nat} (h : Inv cfg s)
    (hfull : s.len = s.capacity) (hlt : s.capacity < nc) (hle : nc ≤ cfg.maxCap) :
    Inv cfg (s.grown nc) := by
  have hs : s.len < nc := hfull ▸ hlt
  have hnc : 0 < nc := Nat.zero_lt_of_lt hs
  -- a cell of the grown table is an old cell or a fresh one
  have key : ∀ i sl, (s.grown nc).slots[i]? = some sl →
      s.slots[i]? = some sl ∨ sl = freshSlot nc i := by
    intro i sl hi
    by_cases hil : i < s.capacity
    · exact .inl ((grown_slots_lt h hfull hlt hil).symm.trans hi)
    · have hin : i < nc := populate_length s.slots hnc ▸ (List.getElem?_eq_some_iff.mp hi).1
      rw [Storage.grown, populate_getElem?_ge (hfull ▸ Nat.not_lt.mp hil) hin] at hi
      exact .inr (Option.some.inj hi).symm
  exact {
    slotsLen := populate_length s.slots hnc
    entsLen := h.entsLen, colsLen := h.colsLen, capMax := hle, archVer := h.archVer
    lenCap := Nat.le_of_lt hs
    dense := fun d e he =>
      (grown_slots_lt h hfull hlt (h.ents_slot_lt he)).trans (h.dense d e he)
    sparse := fun i d v hi => by
      rcases key i _ hi with h1 | h1
      · exact h.sparse i d v h1
      · have := freshSlot_isFree nc i
        rw [← h1] at this; cases this
    verPos := fun i sl hi => by
      rcases key i _ hi with h1 | h1
      · exact h.verPos i sl h1
      · rw [h1, freshSlot_ver]
        exact ⟨Nat.le_refl _, h.cfgOk.vmaxPos⟩
    chain := by
      refine ⟨List.range' s.len (nc - s.len), ?_, List.nodup_range', ?_⟩
      · have := chain_fresh (sl := (s.grown nc).slots) (nc - s.len) s.len (by omega)
          fun i h1 h2 => populate_getElem?_ge h1 h2
        rw [if_neg (by omega)] at this
        show Chain _ (populate s.len nc s.slots).2 _
        rw [populate_head s.slots hnc]
        exact this
      · show (List.range' s.len (nc - s.len)).length + s.len = nc
        rw [List.length_range']; omega }

theorem emptyStorage_inv {cfg : Cfg} (hv : CfgOk cfg) (ncols : Nat) :
    Inv cfg (emptyStorage ncols : Storage α) where
  slotsLen := rfl
  entsLen := rfl
  colsLen := fun c hc => by rw [(List.mem_replicate.mp hc).2]; rfl
  lenCap := Nat.le_refl _
  capMax := Nat.zero_le _
  dense := fun d e he => by simp [emptyStorage] at he
  sparse := fun i d v hi => by simp [emptyStorage] at hi
  chain := ⟨[], .nil, List.nodup_nil, rfl⟩
  verPos := fun i sl hi => by simp [emptyStorage] at hi
  archVer := ⟨Nat.le_refl _, hv.vmaxPos⟩

/-- `with_capacity` ends in the state `grow` produces from the empty storage; it is not `grow`, which
refuses when `maxCap = 0`. -/
theorem withCapacity_eq (cfg : Cfg) (ncols cap : Nat) (hc : cap ≤ cfg.maxCap) :
    withCapacity cfg ncols cap = .ok () ((emptyStorage ncols : Storage α).grown cap) := by
  simp [withCapacity, Nat.not_lt.mpr hc, Storage.grown, emptyStorage]

theorem withCapacity_inv (cfg : Cfg) (ncols cap : Nat) (hc : cap ≤ cfg.maxCap) (hv : CfgOk cfg) :
    Inv cfg ((emptyStorage ncols : Storage α).grown cap) := by
  by_cases h0 : cap = 0
  · subst h0; exact emptyStorage_inv hv ncols
  · exact (emptyStorage_inv hv ncols).grown rfl (Nat.pos_of_ne_zero h0) hc

theorem withCapacity_ok_iff {cfg : Cfg} {ncols cap : Nat} {s : Storage α} :
    withCapacity cfg ncols cap = .ok () s ↔ cap ≤ cfg.maxCap ∧ s = (emptyStorage ncols).grown cap := by
  constructor
  · intro h
    by_cases hc : cap ≤ cfg.maxCap
    · rw [withCapacity_eq _ _ _ hc] at h; cases h; exact ⟨hc, rfl⟩
    · simp [withCapacity, Nat.lt_of_not_le hc] at h
  · rintro ⟨hc, rfl⟩; exact withCapacity_eq cfg ncols cap hc

theorem withCapacity_panics (cfg : Cfg) (ncols cap : Nat) (h : cap > cfg.maxCap) :
    ∃ s : Storage α, withCapacity cfg ncols cap = .panic "capacity may not exceed" s :=
  ⟨emptyStorage ncols, by simp [withCapacity, h]⟩

theorem grow_none_iff (cfg : Cfg) (s : Storage α) (nc : Nat) :
    grow cfg s nc = none ↔ s.capacity ≥ cfg.maxCap := by
  rw [grow_eq]
  by_cases h : s.capacity ≥ cfg.maxCap
  · rw [if_pos h]; exact ⟨fun _ => h, fun _ => rfl⟩
  · rw [if_neg h]; exact ⟨nofun, fun hc => absurd hc h⟩

theorem codeGrowth_ok (cfg : Cfg) (cap : Nat) (h : cap < cfg.maxCap) :
    cap < codeGrowth cfg cap ∧ codeGrowth cfg cap ≤ cfg.maxCap := by
  unfold codeGrowth
  omega

/-! Non-vacuity: a concrete configuration and a full 2-slot storage that satisfies `Inv`
and the hypotheses of `Inv.grown`. -/
namespace StorageEx

def cfgEx : Cfg := ⟨8, 5, false, true, true⟩

theorem cfgEx_ok : CfgOk cfgEx := ⟨by decide⟩

/-- A full storage: two live entities, capacity two. -/
def fullEx : Storage Nat :=
  ⟨1, 2, 2, .freeEnd, [⟨.data 0, 1⟩, ⟨.data 1, 3⟩], [⟨0, 1⟩, ⟨1, 3⟩], [[10, 11]], [], []⟩

theorem fullEx_inv : Inv cfgEx fullEx := (invCheck_iff _ _).mp (by decide)

example : ∃ s', grow cfgEx fullEx 6 = some s' ∧ Inv cfgEx s' ∧ s'.capacity = 6 :=
  ⟨_, rfl, fullEx_inv.grown rfl (by decide) (by decide), rfl⟩

example : ∃ s : Storage Nat, withCapacity cfgEx 2 3 = .ok () s ∧ Inv cfgEx s :=
  ⟨_, withCapacity_eq cfgEx 2 3 (by decide), withCapacity_inv cfgEx 2 3 (by decide) cfgEx_ok⟩

example : (2 : Nat) < codeGrowth cfgEx 2 ∧ codeGrowth cfgEx 2 ≤ cfgEx.maxCap := by decide

example : ∃ s : Storage Nat, withCapacity cfgEx 2 9 = .panic "capacity may not exceed" s :=
  withCapacity_panics cfgEx 2 9 (by decide)

end StorageEx
end Gecs

section
open Gecs
#print axioms chain_fresh
#print axioms withCapacity_inv
#print axioms withCapacity_panics
#print axioms grow_none_iff
#print axioms codeGrowth_ok
end
