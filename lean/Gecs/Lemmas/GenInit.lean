/-
`StorageN::with_capacity` and `clear_events`, run from their extracted statements, are the
model's `withCapacity` / `clearEvents`, for every capacity, column count and storage.
-/
import Gecs.Gen.Steps

namespace Gecs

variable {α : Type}

theorem gen_steps_with_capacity (cfg : Cfg) (ncols cap : Nat) :
    execWithCapacity (α := α) cfg Gen.withCapacitySteps Gen.withCapacityFields ncols cap
      = withCapacity cfg ncols cap := by
  unfold execWithCapacity withCapacity Gen.withCapacitySteps Gen.withCapacityFields
  by_cases h : cap > cfg.maxCap
  · simp [runN, h]
  · cases cfg.events <;> simp [runN, h, nfields, nfield, KLit.build]

theorem gen_steps_clear_events (s : Storage α) :
    runE Gen.clearEventsSteps s = some (clearEvents s) := by
  simp [Gen.clearEventsSteps, runE, clearEvents]

end Gecs
