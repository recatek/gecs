/-
The loop templates of `ecs_iter!` / `ecs_iter_borrow!` and `ecs_iter_destroy!`, as extracted from
macros/src/generate/query.rs on every run (Gecs/Gen/Steps.lean: `iterLoopT`, `iterDestroyLoopT`),
interpreted by Model/LoopSteps.lean, ARE the model's `iterLoop` / `destroyLoop` (Model/Query.lean)
— for every storage, every parameter list and every user closure (arbitrary state machine,
arbitrary results and writes, panics included), by induction over the index list.
-/
import Gecs.Gen.Steps

namespace Gecs

variable {α σ : Type}

theorem gen_loop_destroy_loop (cfg : Cfg) (idA : Nat) (ps : List Param) (f : Closure σ α Step4)
    (e0 : LEnv) (hc : e0.closure = true) (ha : e0.arch = true) :
    ∀ (idxs : List Nat) (st : σ) (s : Storage α),
      runLoop cfg Gen.iterDestroyLoopT idA ps f step4Name e0 idxs st s = destroyLoop cfg idA ps f idxs st s := by
  intro idxs
  induction idxs with
  | nil => intro st s; rfl
  | cons idx rest ih =>
    intro st s
    rw [runLoop, destroyLoop]
    generalize runLoop cfg Gen.iterDestroyLoopT idA ps f step4Name e0 rest = loop at ih ⊢
    cases hv : slicesValid cfg s with
    | false =>
      have hbody : qsRun cfg s Gen.iterDestroyLoopT.body e0
          = .error "get_all_slices_mut: data not valid up to len" := by
        simp only [Gen.iterDestroyLoopT, qsRun, qsStep, ha, hv, if_true, Bool.false_eq_true, if_false]
      rw [hbody]
      rfl
    | true =>
      -- the statements in front of the `match` re-read the version and re-fetch the slices
      obtain ⟨e, hbody, hc', hv', hs'⟩ : ∃ e, qsRun cfg s Gen.iterDestroyLoopT.body e0 = .ok e
          ∧ e.closure = true ∧ e.version = some s.version ∧ e.slices = true := by
        simp only [Gen.iterDestroyLoopT, qsRun, qsStep, ha, hv, if_true]
        exact ⟨_, rfl, hc, rfl, rfl⟩
      simp only [hbody, hc', hv', hs', if_true]
      cases bindArgs idA s s.version idx ps with
      | none => rfl
      | some args =>
        dsimp only
        cases f st args with
        | panic st' ws => rfl
        | ret st' ws r =>
          cases r <;>
            simp only [Gen.iterDestroyLoopT, lookupArm, step4Name, List.find?, String.reduceBEq,
              Option.map, runArm]
          case cont => exact ih _ _
          case contDestroy | brkDestroy =>
            cases (applyWrites s idx ps ws).ents[idx]? with
            | none => rfl
            | some e =>
              dsimp only
              cases destroyEnt cfg (applyWrites s idx ps ws) e with
              | ok _ s2 => simp only [ih, reduceCtorEq, if_false, if_true]
              | panic m s2 => rfl
              | ub m => rfl

theorem gen_loop_iter_loop (cfg : Cfg) (idA : Nat) (ps : List Param) (f : Closure σ α Step)
    (e0 : LEnv) (v : Nat) (hc : e0.closure = true) (hv : e0.version = some v) (hs : e0.slices = true) :
    ∀ (idxs : List Nat) (st : σ) (s : Storage α),
      runLoop cfg Gen.iterLoopT idA ps f stepName e0 idxs st s = iterLoop idA ps f v idxs st s := by
  intro idxs
  induction idxs with
  | nil => intro st s; rfl
  | cons idx rest ih =>
    intro st s
    rw [runLoop, iterLoop]
    generalize runLoop cfg Gen.iterLoopT idA ps f stepName e0 rest = loop at ih ⊢
    -- nothing is read again inside the loop: version and slices are those from in front of it
    obtain ⟨e, hbody, hc', hv', hs'⟩ : ∃ e, qsRun cfg s Gen.iterLoopT.body e0 = .ok e
        ∧ e.closure = true ∧ e.version = some v ∧ e.slices = true := ⟨_, rfl, hc, hv, hs⟩
    simp only [hbody, hc', hv', hs']
    cases bindArgs idA s v idx ps with
    | none => rfl
    | some args =>
      dsimp only
      cases f st args with
      | panic st' ws => rfl
      | ret st' ws r =>
        cases r <;>
          simp only [Gen.iterLoopT, lookupArm, stepName, List.find?, String.reduceBEq, Option.map,
            runArm]
        exact ih _ _

/-- One `ecs_iter!` block, as extracted, is the model's block. -/
theorem gen_loop_iter_block (cfg : Cfg) (idA : Nat) (ps : List Param) (f : Closure σ α Step) (st : σ) (s : Storage α) :
    runBlock cfg Gen.iterLoopT idA ps f stepName st s
      = (if slicesValid cfg s then iterLoop idA ps f s.version (List.range s.len) st s
         else .ub "get_all_slices_mut: data not valid up to len") := by
  unfold runBlock
  by_cases hv : slicesValid cfg s = true
  · have h := gen_loop_iter_loop cfg idA ps f
      { closure := true, arch := true, version := some s.version, len := some s.len, slices := true } s.version rfl rfl rfl
      (List.range s.len) st s
    simp only [Gen.iterLoopT] at h
    simp [Gen.iterLoopT, qsRun, qsStep, hv, h]
  · have hv' : slicesValid cfg s = false := by simpa using hv
    simp [Gen.iterLoopT, qsRun, qsStep, hv']

/-- One `ecs_iter_destroy!` block, as extracted, is the model's block. -/
theorem gen_loop_destroy_block (cfg : Cfg) (idA : Nat) (ps : List Param) (f : Closure σ α Step4) (st : σ) (s : Storage α) :
    runBlock cfg Gen.iterDestroyLoopT idA ps f step4Name st s
      = destroyLoop cfg idA ps f (List.range s.len).reverse st s := by
  unfold runBlock
  have h := gen_loop_destroy_loop cfg idA ps f
    { closure := true, arch := true, version := none, len := some s.len, slices := false } rfl rfl
    (List.range s.len).reverse st s
  simp only [Gen.iterDestroyLoopT] at h
  simp [Gen.iterDestroyLoopT, qsRun, qsStep, h]

/-- `ecs_iter!` / `ecs_iter_borrow!` over all matched archetypes, every block run from the
extracted template; a `stop` (the `return` inside the wrapper closure) ends the whole query. -/
def iterQueryT (cfg : Cfg) (f : Closure σ α Step) : Query → σ → World α → QOut σ α
  | [], st, w => .ok st w
  | qa :: rest, st, w =>
    match w.archs[qa.a]? with
    | none => .ub "no such archetype"
    | some s =>
      match runBlock cfg Gen.iterLoopT (w.ids.getD qa.a ID_RANGE) qa.params f stepName st s with
      | .done st' s' => iterQueryT cfg f rest st' (w.setArch qa.a s')
      | .stop st' s' => .ok st' (w.setArch qa.a s')
      | .panic m st' s' => .panic m st' (w.setArch qa.a s')
      | .ub m => .ub m

def iterDestroyQueryT (cfg : Cfg) (f : Closure σ α Step4) : Query → σ → World α → QOut σ α
  | [], st, w => .ok st w
  | qa :: rest, st, w =>
    match w.archs[qa.a]? with
    | none => .ub "no such archetype"
    | some s =>
      match runBlock cfg Gen.iterDestroyLoopT (w.ids.getD qa.a ID_RANGE) qa.params f step4Name st s with
      | .done st' s' => iterDestroyQueryT cfg f rest st' (w.setArch qa.a s')
      | .stop st' s' => .ok st' (w.setArch qa.a s')
      | .panic m st' s' => .panic m st' (w.setArch qa.a s')
      | .ub m => .ub m

theorem gen_loop_iter_query (cfg : Cfg) (f : Closure σ α Step) :
    ∀ (q : Query) (st : σ) (w : World α), iterQueryT cfg f q st w = iterQuery cfg f q st w := by
  intro q
  induction q with
  | nil => intro st w; rfl
  | cons qa rest ih =>
    intro st w
    unfold iterQueryT iterQuery
    cases hs : w.archs[qa.a]? with
    | none => rfl
    | some s =>
      simp only [gen_loop_iter_block]
      by_cases hv : slicesValid cfg s = true
      · simp only [hv, if_true]
        cases iterLoop (w.ids.getD qa.a ID_RANGE) qa.params f s.version (List.range s.len) st s <;> simp [ih]
      · have hv' : slicesValid cfg s = false := by simpa using hv
        simp [hv']

theorem gen_loop_destroy_query (cfg : Cfg) (f : Closure σ α Step4) :
    ∀ (q : Query) (st : σ) (w : World α), iterDestroyQueryT cfg f q st w = iterDestroyQuery cfg f q st w := by
  intro q
  induction q with
  | nil => intro st w; rfl
  | cons qa rest ih =>
    intro st w
    unfold iterDestroyQueryT iterDestroyQuery
    cases hs : w.archs[qa.a]? with
    | none => rfl
    | some s =>
      simp only [gen_loop_destroy_block]
      cases destroyLoop cfg (w.ids.getD qa.a ID_RANGE) qa.params f (List.range s.len).reverse st s <;> simp [ih]

/-! ### The interpreter discriminates: the loop template before the repair of defect F2

With `version` read once in front of the loop, the direct handle given to the closure at the
step after a removal carries the stale archetype version (as a variant of the model function:
`Loops.destroyLoopStale`, Lemmas/Loops.lean). -/

def f2Template : LoopT :=
  { Gen.iterDestroyLoopT with pre := [.aliasArchetype, .bindClosure, .bindArchetype, .readVersion, .readLen],
                              body := [.fetchSlices] }

def f2State : Storage Nat :=
  { version := 3, len := 2, capacity := 2, freeHead := .freeEnd, slots := [⟨.data 0, 1⟩, ⟨.data 1, 1⟩],
    ents := [⟨0, 1⟩, ⟨1, 1⟩], cols := [[10, 11]], created := [], destroyed := [] }

def f2Cfg : Cfg := { maxCap := 16, vmax := 100, wrapping := false, events := false, debug := false }

/-- The closure records the version of the direct handle it is given and destroys the entity. -/
def f2Closure : Closure (List Nat) Nat Step4 := fun st args =>
  match args with
  | [Arg.dir k] => .ret (st ++ [k.ver]) [none] .contDestroy
  | _ => .ret st [] .cont

def seenVersions : LoopOut (List Nat) Nat → List Nat
  | .done st _ => st
  | .stop st _ => st
  | .panic _ st _ => st
  | .ub _ => []

/-- The repaired template hands out versions 3 then 4 (the removal in between advanced the
archetype version); the template before the repair 3 and 3. -/
example : seenVersions (runBlock f2Cfg Gen.iterDestroyLoopT 0 [.dir] f2Closure step4Name [] f2State) = [3, 4]
    ∧ seenVersions (destroyLoop f2Cfg 0 [.dir] f2Closure [1, 0] [] f2State) = [3, 4]
    ∧ seenVersions (runBlock f2Cfg f2Template 0 [.dir] f2Closure step4Name [] f2State) = [3, 3] := by
  decide +kernel

end Gecs
