/-
The step theorem and the run theorem.

One statement carries the file: every operation takes every archetype along a path of labelled
atomic steps whose labels the operation *emits* (`Op.Emits`; `Op.EmitsAt` also records where a
`destroy` was routed to), through `Inv` states, keeping the number of columns — `WRelL`
(`WorldRel.lean`) with `Op.EmitsAt` for `P`.  It is proved once for `stepOp` (`stepOp_emitsAt`, from
the storage-level and query-level facts of `LPost.lean` and `WorldRel.lean`) and carried along
`run` (`run_induction`) in two forms: as one `WRelL` whose labels some operation of the history
emits (`run_emitsAt`; `run_lift` reads a reflexive, transitive relation of one's choice off it),
and with the path written out as one block of labels per operation (`run_emits`, `OpsEmit`).
Closures are arbitrary functions (any writes, any removal, a panic at any point), handle words
are arbitrary, and a history goes on after every panic.  Everything that forgets the labels —
`never ub`, `WInv` kept, `SReach` per archetype (`stepOp_spec`, `run_inv`), "only component
values differ" for `ecs_iter!` (`iterLoop_spec`) — is a projection.

Operations must be *well-scoped* (`Op.Scoped`): archetype indices exist, rows have one value per
column, `ecs_find!` only names existing columns, typed key uses name an existing archetype.  These
are static guarantees of the Rust type system / macro expansion; the model, which uses numbers,
answers `ub` without them: counterexamples at the end of the file.
-/
import Gecs.Lemmas.WorldRel

namespace Gecs
variable {α σ : Type}

/-- Static well-scopedness of one operation with respect to the column-count schema `sch`
(`sch[a]` = number of columns of archetype `a`).  Everything asked here is guaranteed
statically by the Rust type system and the macro expansion — archetypes named by a call
exist, `create` takes one value per column, the queries' bound parameters name existing
columns of existing archetypes, a typed key names an existing archetype — but the model
refers to archetypes and columns by number and answers `ub` ("no such archetype",
"view: get_unchecked…") when a number is out of range.  Handles (their words), closures and
growth functions stay completely arbitrary. -/
def Op.Scoped (sch : List Nat) : Op α → Prop
  | .create a row _ => sch[a]? = some row.length
  | .createWithin a row => sch[a]? = some row.length
  | .destroy u => u.Scoped sch.length
  | .write u _ _ => u.Scoped sch.length
  | .iter q _ _ _ => QArchsIn sch.length q
  | .iterDestroy q _ _ _ => QArchsIn sch.length q
  | .find q _ _ _ _ => QColsIn sch q
  | .clearEvents _ => True
  | .cloneSwitch _ => True

def OpsScoped (sch : List Nat) (ops : List (Op α)) : Prop := ∀ op ∈ ops, op.Scoped sch

theorem OpsScoped_cons {sch : List Nat} {op : Op α} {ops : List (Op α)} :
    OpsScoped sch (op :: ops) ↔ op.Scoped sch ∧ OpsScoped sch ops := List.forall_mem_cons

theorem OpsScoped_append {sch : List Nat} {ops₁ ops₂ : List (Op α)} :
    OpsScoped sch (ops₁ ++ ops₂) ↔ OpsScoped sch ops₁ ∧ OpsScoped sch ops₂ :=
  List.forall_mem_append

theorem OpsOk_cons {cfg : Cfg} (op : Op α) (ops : List (Op α)) :
    OpsOk cfg (op :: ops) ↔ OpsOk cfg [op] ∧ OpsOk cfg ops := by
  cases op <;> simp [OpsOk]

theorem OpsOk_append {cfg : Cfg} {ops₁ ops₂ : List (Op α)} :
    OpsOk cfg (ops₁ ++ ops₂) ↔ OpsOk cfg ops₁ ∧ OpsOk cfg ops₂ := by
  induction ops₁ with
  | nil => simp [OpsOk]
  | cons op ops ih =>
    rw [List.cons_append, OpsOk_cons, ih, OpsOk_cons op ops, and_assoc]

/-- Label `l` may be contributed by operation `op` to the path of archetype `a`. -/
def Op.Emits (a : Nat) : Op α → Lbl α → Prop
  | .create b row _, .created _ row' => b = a ∧ row' = row
  | .createWithin b row, .created _ row' => b = a ∧ row' = row
  | .destroy _, .destroyed _ _ => True
  | .write _ c x, .write _ c' x' => c' = c ∧ x' = x
  | .iter q _ _ _, .write _ c _ => ∃ qa ∈ q, qa.a = a ∧ Param.comp c true ∈ qa.params
  | .iterDestroy q _ _ _, .write _ c _ => ∃ qa ∈ q, qa.a = a ∧ Param.comp c true ∈ qa.params
  | .iterDestroy q _ _ _, .destroyed _ _ => ∃ qa ∈ q, qa.a = a
  | .find q _ _ _ _, .write _ c _ => ∃ qa ∈ q, qa.a = a ∧ Param.comp c true ∈ qa.params
  | .clearEvents oa, .clear => oa = none ∨ oa = some a
  | .cloneSwitch cl, .clone cl' => cl' = cl
  | _, _ => False

/-- `Op.Emits`, refined by where a `destroy` is routed to. -/
def Op.EmitsAt (cfg : Cfg) (ids : List Nat) (a : Nat) (op : Op α) (l : Lbl α) : Prop :=
  op.Emits a l ∧ match op with
    | .destroy u => ∃ k, u.route cfg ids = .arch a k
    | _ => True

/-- The step theorem.  One API call from a world satisfying `WInv` — arbitrary handle words, an
arbitrary closure, any admissible growth — returns or panics, never `ub`, and either way leaves a
world with `WInv`, the same ids and column counts, in which every archetype `a` was reached
through `Inv` states by atomic steps whose labels this call emits in `a` (`Op.EmitsAt`). -/
theorem stepOp_emitsAt {cfg : Cfg} {w : World α} (hw : WInv cfg w) (op : Op α)
    (hop : OpsOk cfg [op]) (hs : op.Scoped w.sch) :
    (stepOp cfg w op).sat (WRelL cfg (fun a => op.EmitsAt cfg w.ids a) w) := by
  cases op with
  | create a row g =>
    obtain ⟨s, hs1, hs2⟩ := World.sch_get hs
    exact liftArch_lsat hw hs1 <| push_lpost (hw.get hs1) hop.1 hs2 fun _ => ⟨⟨rfl, rfl⟩, trivial⟩
  | createWithin a row =>
    obtain ⟨s, hs1, hs2⟩ := World.sch_get hs
    exact liftArch_lsat hw hs1 <| .inl <|
      pushWithin_lpost (hw.get hs1) hs2 fun _ => ⟨⟨rfl, rfl⟩, trivial⟩
  | destroy u =>
    have hu : u.Scoped w.archs.length := w.sch_length ▸ hs
    simp only [stepOp, World.destroy]
    cases hr : u.route cfg w.ids with
    | absent | panic => exact .refl hw
    | arch a k =>
      obtain ⟨s, hs1⟩ : ∃ s, w.archs[a]? = some s :=
        ⟨_, List.getElem?_eq_getElem (hw.route_lt hu hr)⟩
      exact liftArch_lsat hw hs1 <|
        storageDestroy_lpost (hw.get hs1) u.h.kind.isDirect k fun _ _ => ⟨trivial, k, hr⟩
  | write u c x =>
    have hu : u.Scoped w.archs.length := w.sch_length ▸ hs
    rcases fetch_safe hw u hu u.h.kind.isDirect with ⟨r, hr⟩ | ⟨m, hm⟩
    · cases r with
      | none => simp only [stepOp, hr]; exact .refl hw
      | some t =>
        obtain ⟨d, e, row⟩ := t
        obtain ⟨_, a, k, s, h2, h3, _⟩ := fetch_ok hw hr
        rw [h2] at hr
        simp only [stepOp, h2, hr, h3]
        exact WRelL.setArch hw h3 <| .step (hw.get h3) (.write s d c x) ⟨⟨rfl, rfl⟩, trivial⟩
          (writeCell_cols_length s d c x)
    · simp only [stepOp, hm]; exact .refl hw
  | iter q σ f st =>
    exact QOut.sat_res <| iterQuery_lsat f q st w hw (w.sch_length ▸ hs)
      fun qa hqa c hc _ _ => ⟨⟨qa, hqa, rfl, hc⟩, trivial⟩
  | iterDestroy q σ f st =>
    exact QOut.sat_res <| iterDestroyQuery_lsat f q st w hw (w.sch_length ▸ hs)
      (fun qa hqa c hc _ _ => ⟨⟨qa, hqa, rfl, hc⟩, trivial⟩) fun qa hqa _ _ => ⟨⟨qa, hqa, rfl⟩, trivial⟩
  | find q σ f h st =>
    have hf := findQuery_lsat (P := (Op.find q σ f h st).EmitsAt cfg w.ids) hw q f h st hs
      fun qa hqa c hc _ _ => ⟨⟨qa, hqa, rfl, hc⟩, trivial⟩
    simp only [stepOp]
    cases hq : findQuery cfg q f h st w <;> rw [hq] at hf <;> exact hf
  | clearEvents oa =>
    cases oa with
    | none =>
      simp only [stepOp, World.clearEvents]
      exact WRelL.map hw clearEvents fun a s hi => .step hi (.clear s) ⟨.inl rfl, trivial⟩ rfl
    | some a =>
      simp only [stepOp]
      cases hs1 : w.archs[a]? with
      | none => exact .refl hw
      | some s => exact WRelL.setArch hw hs1 <| .step (hw.get hs1) (.clear s) ⟨.inr rfl, trivial⟩ rfl
  | cloneSwitch cl =>
    simp only [stepOp, World.clone_spec hw cl]
    exact WRelL.map hw _ fun a s hi => .step hi (.clone s cl) ⟨rfl, trivial⟩ (by simp)

/-- `L` is the concatenation, in order, of one block of labels per operation of the history,
the block of each operation emitted by that operation (a panicking or refused operation may
contribute the empty block). -/
def OpsEmit (a : Nat) : List (Op α) → List (Lbl α) → Prop
  | [], L => L = []
  | op :: ops, L => ∃ L₁ L₂, L = L₁ ++ L₂ ∧ (∀ l ∈ L₁, op.Emits a l) ∧ OpsEmit a ops L₂

theorem OpsEmit.mem {a : Nat} : ∀ {ops : List (Op α)} {L : List (Lbl α)}, OpsEmit a ops L →
    ∀ l ∈ L, ∃ op ∈ ops, op.Emits a l := by
  intro ops
  induction ops with
  | nil => intro L h l hl; rw [show L = [] from h] at hl; cases hl
  | cons op ops ih =>
    intro L h l hl
    obtain ⟨L₁, L₂, rfl, h1, h2⟩ := h
    rcases List.mem_append.mp hl with hm | hm
    · exact ⟨op, List.mem_cons_self, h1 l hm⟩
    · obtain ⟨op', hop', he⟩ := ih h2 l hm
      exact ⟨op', List.mem_cons_of_mem _ hop', he⟩

theorem run_cons_of_sat {cfg : Cfg} {P : World α → Prop} {w : World α} {op : Op α}
    (h : (stepOp cfg w op).sat P) (ops : List (Op α)) :
    ∃ w1, P w1 ∧ run cfg w (op :: ops) = run cfg w1 ops := by
  obtain ⟨w1, hst | ⟨m, hst⟩, hp⟩ := Res.sat_iff.mp h <;>
    exact ⟨w1, hp, by rw [run, hst]⟩

theorem stepOp_emits {cfg : Cfg} {w : World α} (hw : WInv cfg w) (hc : CfgOk cfg) (op : Op α)
    (hop : OpsOk cfg [op]) (hs : op.Scoped w.sch) :
    (stepOp cfg w op).sat (WRelL cfg (fun a => op.Emits a) w) :=
  Res.sat_mono (stepOp_emitsAt hw op hop hs) (fun _ h => h.mono (fun _ _ h => h.1))

/-- Induction along a history (one step of `run` is `run_cons_of_sat`): what holds of a world and
the empty history, and is carried over one operation's `WRelL` step, holds of the world every
well-formed history runs to — whichever operations panicked on the way. -/
theorem run_induction {cfg : Cfg} {Q : World α → List (Op α) → World α → Prop}
    (nil : ∀ {w}, WInv cfg w → Q w [] w)
    (cons : ∀ {w w₁ w' op ops}, WRelL cfg (fun a => op.EmitsAt cfg w.ids a) w w₁ → Q w₁ ops w' →
      Q w (op :: ops) w') :
    ∀ (ops : List (Op α)) (w : World α), WInv cfg w → OpsOk cfg ops → OpsScoped w.sch ops →
      ∃ w', run cfg w ops = some w' ∧ Q w ops w' := by
  intro ops
  induction ops with
  | nil => intro w hw _ _; exact ⟨w, rfl, nil hw⟩
  | cons op ops ih =>
    intro w hw ho hs
    have ho' := (OpsOk_cons op ops).mp ho
    have hs' := OpsScoped_cons.mp hs
    obtain ⟨w₁, h1, hrun⟩ := run_cons_of_sat (stepOp_emitsAt hw op ho'.1 hs'.1) ops
    obtain ⟨w', r, q⟩ := ih w₁ h1.winv ho'.2 (by rw [h1.toWRel.sch_eq]; exact hs'.2)
    exact ⟨w', hrun.trans r, cons h1 q⟩

/-- The step theorem along a history: every archetype `a` of the world a well-formed history runs
to is reached by labels each of which some operation of the history emits in `a`. -/
theorem run_emitsAt {cfg : Cfg} (ops : List (Op α)) (w : World α) (hw : WInv cfg w)
    (ho : OpsOk cfg ops) (hs : OpsScoped w.sch ops) :
    ∃ w', run cfg w ops = some w'
      ∧ WRelL cfg (fun a l => ∃ op ∈ ops, op.EmitsAt cfg w.ids a l) w w' :=
  run_induction
    (Q := fun w ops w' => WRelL cfg (fun a l => ∃ op ∈ ops, op.EmitsAt cfg w.ids a l) w w')
    .refl
    (fun {_ _ _ op _} h1 q =>
      (h1.mono fun _ _ h => ⟨op, List.mem_cons_self, h⟩).trans
        (q.mono fun _ _ ⟨op', hop', h⟩ => ⟨op', List.mem_cons_of_mem _ hop', h1.ids ▸ h⟩))
    ops w hw ho hs

theorem run_lift {cfg : Cfg} {R : Nat → Storage α → Storage α → Prop}
    (refl : ∀ a s, R a s s) (trans : ∀ {a s s' s''}, R a s s' → R a s' s'' → R a s s'')
    {ids : List Nat} :
    ∀ (ops : List (Op α)) (w w' : World α), WInv cfg w → OpsOk cfg ops → OpsScoped w.sch ops →
      w.ids = ids →
      (∀ op ∈ ops, ∀ a s l s', Inv cfg s → LStep cfg s l s' → op.EmitsAt cfg ids a l → R a s s') →
      run cfg w ops = some w' →
      ∀ a s s', w.archs[a]? = some s → w'.archs[a]? = some s' → R a s s' := by
  intro ops w w' hw ho hs hid hR hr a s s' g g'
  obtain ⟨w'', hr', q⟩ := run_emitsAt ops w hw ho hs
  cases hr.symm.trans hr'
  exact (q.lreach a s s' g g').lift (refl a) trans fun hi hl ⟨op, hop, hp⟩ =>
    hR op hop a _ _ _ hi hl (hid ▸ hp)

/-- The run theorem with labels: ALL finite histories — arbitrary (forged, stale, foreign)
handle words, arbitrary closures, arbitrary admissible growth — continuing after every panic,
never reach `ub`, and every archetype `a` of the final world is reached from the initial one by
a labelled path `L` made, in order, of the labels emitted by the operations of the history. -/
theorem run_emits {cfg : Cfg} (hc : CfgOk cfg) :
    ∀ (ops : List (Op α)) (w : World α), WInv cfg w → OpsOk cfg ops → OpsScoped w.sch ops →
      ∃ w', run cfg w ops = some w' ∧ WRel cfg w w'
        ∧ ∀ (a : Nat) (s s' : Storage α), w.archs[a]? = some s → w'.archs[a]? = some s' →
            ∃ L, LReach cfg s L s' ∧ OpsEmit a ops L :=
  run_induction
    (fun hw => ⟨.refl hw, fun a s s' g g' => by cases g.symm.trans g'; exact ⟨[], .refl s, rfl⟩⟩)
    (fun h1 ⟨r2, r3⟩ => ⟨h1.toWRel.trans r2, fun a s s' g g' => by
      obtain ⟨s₁, g₁⟩ := getElem?_some_of_length_eq h1.len g
      obtain ⟨L₁, p1, q1⟩ := h1.lreach a s s₁ g g₁
      obtain ⟨L₂, p2, q2⟩ := r3 a s₁ s' g₁ g'
      exact ⟨L₁ ++ L₂, p1.trans p2, L₁, L₂, rfl, fun l hl => (q1 l hl).1, q2⟩⟩)

theorem run_labelled_emits {cfg : Cfg} {w : World α} {ops : List (Op α)} (hw : WInv cfg w)
    (hc : CfgOk cfg) (ho : OpsOk cfg ops) (hs : OpsScoped w.sch ops) :
    ∃ w', run cfg w ops = some w' ∧ WInv cfg w' ∧ w'.archs.length = w.archs.length
      ∧ ∀ (a : Nat) (s s' : Storage α), w.archs[a]? = some s → w'.archs[a]? = some s' →
          ∃ L, LReach cfg s L s' ∧ OpsEmit a ops L := by
  obtain ⟨w', h1, h2, h3⟩ := run_emits hc ops w hw ho hs
  exact ⟨w', h1, h2.winv, h2.len, h3⟩

theorem stepOp_sat {cfg : Cfg} {w : World α} (hw : WInv cfg w) (op : Op α)
    (hop : OpsOk cfg [op]) (hs : op.Scoped w.sch) : (stepOp cfg w op).sat (WRel cfg w) :=
  Res.sat_mono (stepOp_emitsAt hw op hop hs) fun _ h => h.toWRel

/-- `WRel` spelled out: the conclusion of `stepOp_spec`, `run_inv` and the `…Query_spec`. -/
def WPost (cfg : Cfg) (w w' : World α) : Prop :=
  WInv cfg w' ∧ w'.ids = w.ids ∧ w'.archs.length = w.archs.length
    ∧ (∀ (a : Nat) (s s' : Storage α),
        w.archs[a]? = some s → w'.archs[a]? = some s' → SReach cfg s s')
    ∧ w'.sch = w.sch

theorem WRel.post {cfg : Cfg} {w w' : World α} (h : WRel cfg w w') : WPost cfg w w' :=
  ⟨h.winv, h.ids, h.len, h.reach, h.sch_eq⟩

/-- `ecs_iter!` over one archetype with an ARBITRARY closure: never `ub` (`LoopOut.sat` is
`False` on `ub`); every outcome (`done`/`stop`/`panic`) carries a state satisfying `Inv`,
reached by atomic steps, in which only component values differ. -/
theorem iterLoop_spec {cfg : Cfg} {s : Storage α} (hs : Inv cfg s) (idA : Nat) (ps : List Param)
    (f : Closure σ α Step) (version : Nat) (idxs : List Nat) (st : σ) :
    (iterLoop idA ps f version idxs st s).sat (fun s' =>
      Inv cfg s' ∧ SReach cfg s s'
      ∧ (s'.ents = s.ents ∧ s'.len = s.len ∧ s'.capacity = s.capacity ∧ s'.version = s.version
          ∧ s'.slots = s.slots)
      ∧ s'.cols.length = s.cols.length ∧ s'.freeHead = s.freeHead
      ∧ s'.created = s.created ∧ s'.destroyed = s.destroyed) :=
  LoopOut.sat_mono
    (iterLoop_lsat idA ps f version idxs st s hs fun c _ d x => ⟨d, c, x, rfl⟩)
    fun _ h =>
      have h3 := h.path.colsOnly
      ⟨h.inv, h.path.sreach, ⟨h3.ents, h3.len, h3.capacity, h3.version, h3.slots⟩,
        h3.ncols, h3.freeHead, h3.created, h3.destroyed⟩

theorem iterLoop_not_ub {cfg : Cfg} {s : Storage α} (hs : Inv cfg s) (idA : Nat) (ps : List Param)
    (f : Closure σ α Step) (version : Nat) (idxs : List Nat) (st : σ) :
    ∀ m, iterLoop idA ps f version idxs st s ≠ .ub m :=
  LoopOut.sat_not_ub (iterLoop_spec hs idA ps f version idxs st)

/-- `ecs_iter_destroy!` over one archetype with an ARBITRARY closure: never `ub`; every
outcome carries a state satisfying `Inv` and reached by atomic steps; capacity and column count are
kept, `len` does not grow. -/
theorem destroyLoop_spec {cfg : Cfg} {s : Storage α} (hs : Inv cfg s) (idA : Nat)
    (ps : List Param) (f : Closure σ α Step4) (idxs : List Nat) (st : σ) :
    (destroyLoop cfg idA ps f idxs st s).sat (fun s' =>
      Inv cfg s' ∧ SReach cfg s s' ∧ s'.capacity = s.capacity
      ∧ s'.cols.length = s.cols.length ∧ s'.len ≤ s.len) :=
  LoopOut.sat_mono
    (destroyLoop_lsat (P := fun l => ∀ e row, l ≠ .created e row) idA ps f
      (fun _ _ _ _ _ _ h => nomatch h) (fun _ _ _ _ h => nomatch h) idxs st s hs)
    fun _ h =>
      have hc := h.path.capacity_eq_len_le
      ⟨h.inv, h.path.sreach, hc.1, h.ncols, hc.2⟩

theorem destroyLoop_not_ub {cfg : Cfg} {s : Storage α} (hs : Inv cfg s) (idA : Nat)
    (ps : List Param) (f : Closure σ α Step4) (idxs : List Nat) (st : σ) :
    ∀ m, destroyLoop cfg idA ps f idxs st s ≠ .ub m :=
  LoopOut.sat_not_ub (destroyLoop_spec hs idA ps f idxs st)

theorem iterQuery_spec {cfg : Cfg} {w : World α} (hw : WInv cfg w) (f : Closure σ α Step)
    (q : Query) (st : σ) (hq : QArchsIn w.archs.length q) :
    (iterQuery cfg f q st w).sat (WPost cfg w) :=
  QOut.sat_mono (iterQuery_lsat (P := fun _ _ => True) f q st w hw hq fun _ _ _ _ _ _ => trivial)
    fun _ h => h.toWRel.post

theorem iterDestroyQuery_spec {cfg : Cfg} {w : World α} (hw : WInv cfg w)
    (f : Closure σ α Step4) (q : Query) (st : σ) (hq : QArchsIn w.archs.length q) :
    (iterDestroyQuery cfg f q st w).sat (WPost cfg w) :=
  QOut.sat_mono (iterDestroyQuery_lsat (P := fun _ _ => True) f q st w hw hq
    (fun _ _ _ _ _ _ => trivial) fun _ _ _ _ => trivial) fun _ h => h.toWRel.post

theorem findQuery_spec {ρ : Type} {cfg : Cfg} {w : World α} (hw : WInv cfg w) (q : Query)
    (f : Closure σ α ρ) (h : Handle) (st : σ) (hq : QColsIn w.sch q) :
    (findQuery cfg q f h st w).sat (WPost cfg w) :=
  FOut.sat_mono (findQuery_lsat (P := fun _ _ => True) hw q f h st hq fun _ _ _ _ _ _ => trivial)
    fun _ h => h.toWRel.post

/-- The step theorem with the labels forgotten.  False without `op.Scoped w.sch`: see the
counterexamples at the end of the file. -/
theorem stepOp_spec {cfg : Cfg} {w : World α} {op : Op α} (hw : WInv cfg w) (hc : CfgOk cfg)
    (hop : OpsOk cfg [op]) (hs : op.Scoped w.sch) :
    ∃ w', (stepOp cfg w op = .ok w' ∨ ∃ m, stepOp cfg w op = .panic m w')
      ∧ WInv cfg w' ∧ w'.ids = w.ids ∧ w'.archs.length = w.archs.length
      ∧ (∀ (a : Nat) (s s' : Storage α),
          w.archs[a]? = some s → w'.archs[a]? = some s' → SReach cfg s s')
      ∧ w'.sch = w.sch :=
  let ⟨w', h, hp⟩ := Res.sat_iff.mp (stepOp_sat hw op hop hs); ⟨w', h, hp.post⟩

theorem stepOp_labelled {cfg : Cfg} {w : World α} {op : Op α} (hw : WInv cfg w) (hc : CfgOk cfg)
    (hop : OpsOk cfg [op]) (hs : op.Scoped w.sch) :
    ∃ w', (stepOp cfg w op = .ok w' ∨ ∃ m, stepOp cfg w op = .panic m w') ∧ WInv cfg w'
      ∧ ∀ (a : Nat) (s s' : Storage α),
          w.archs[a]? = some s → w'.archs[a]? = some s' → ∃ L, LReach cfg s L s' :=
  let ⟨w', h, hp⟩ := Res.sat_iff.mp (stepOp_emits hw hc op hop hs)
  ⟨w', h, hp.winv, fun a s s' g1 g2 => let ⟨L, r, _⟩ := hp.lreach a s s' g1 g2; ⟨L, r⟩⟩

theorem run_append (cfg : Cfg) (w : World α) (ops₁ ops₂ : List (Op α)) :
    run cfg w (ops₁ ++ ops₂) = (run cfg w ops₁).bind (fun w' => run cfg w' ops₂) := by
  induction ops₁ generalizing w with
  | nil => simp [run]
  | cons op ops ih =>
    simp only [List.cons_append, run]
    cases stepOp cfg w op with
    | ok w' => exact ih w'
    | panic m w' => exact ih w'
    | ub m => rfl

theorem run_rel {cfg : Cfg} (ops : List (Op α)) (w : World α) (hw : WInv cfg w)
    (ho : OpsOk cfg ops) (hs : OpsScoped w.sch ops) :
    ∃ w', run cfg w ops = some w' ∧ WRel cfg w w' :=
  run_induction (Q := fun w _ w' => WRel cfg w w') .refl (fun h1 r2 => h1.toWRel.trans r2)
    ops w hw ho hs

theorem run_wrel {cfg : Cfg} {w w' : World α} {ops : List (Op α)} (hw : WInv cfg w)
    (ho : OpsOk cfg ops) (hs : OpsScoped w.sch ops)
    (hr : run cfg w ops = some w') : WRel cfg w w' := by
  obtain ⟨w'', h1, h2⟩ := run_rel ops w hw ho hs
  rw [hr] at h1; cases h1; exact h2

/-- The run theorem: ALL finite histories of any length — arbitrary (forged, stale, foreign)
handle words, arbitrary closures, arbitrary admissible growth — continuing after every panic,
never reach `ub`, keep `WInv`, and change every storage only by atomic steps. -/
theorem run_inv {cfg : Cfg} {w : World α} {ops : List (Op α)} (hw : WInv cfg w) (hc : CfgOk cfg)
    (ho : OpsOk cfg ops) (hs : OpsScoped w.sch ops) :
    ∃ w', run cfg w ops = some w' ∧ WInv cfg w' ∧ w'.ids = w.ids
      ∧ w'.archs.length = w.archs.length
      ∧ (∀ (a : Nat) (s s' : Storage α),
          w.archs[a]? = some s → w'.archs[a]? = some s' → SReach cfg s s')
      ∧ w'.sch = w.sch := by
  obtain ⟨w', h1, h2⟩ := run_rel ops w hw ho hs
  exact ⟨w', h1, h2.post⟩

theorem run_prefix {cfg : Cfg} {w : World α} {ops₁ ops₂ : List (Op α)} (hw : WInv cfg w)
    (ho : OpsOk cfg (ops₁ ++ ops₂)) (hs : OpsScoped w.sch (ops₁ ++ ops₂)) :
    ∃ w₁ w₂, run cfg w ops₁ = some w₁ ∧ run cfg w₁ ops₂ = some w₂
      ∧ run cfg w (ops₁ ++ ops₂) = some w₂ ∧ WRel cfg w w₁ ∧ WRel cfg w₁ w₂ := by
  obtain ⟨ho1, ho2⟩ := OpsOk_append.mp ho
  obtain ⟨hs1, hs2⟩ := OpsScoped_append.mp hs
  obtain ⟨w₁, h1, r1⟩ := run_rel ops₁ w hw ho1 hs1
  obtain ⟨w₂, h2, r2⟩ := run_rel ops₂ w₁ r1.winv ho2 (by rw [r1.sch_eq]; exact hs2)
  exact ⟨w₁, w₂, h1, h2, by rw [run_append, h1]; exact h2, r1, r2⟩

theorem run_capacity_mono {cfg : Cfg} {w w' : World α} {ops : List (Op α)} (hw : WInv cfg w)
    (ho : OpsOk cfg ops) (hs : OpsScoped w.sch ops)
    (hr : run cfg w ops = some w') (a : Nat) (s s' : Storage α)
    (g1 : w.archs[a]? = some s) (g2 : w'.archs[a]? = some s') : s.capacity ≤ s'.capacity :=
  sreach_capacity_mono ((run_wrel hw ho hs hr).reach a s s' g1 g2)

namespace WorldEx
open StorageEx

example : wEx.sch = [2, 1] := rfl

/-- A history on `wEx`: three creates (the third grows the storage 2 → 6), a refused
`create_within_capacity`, an `ecs_iter!` writing through `&mut`, an `ecs_find!` writing another
column, a removal by a dynamic key, the same (now stale) key again, a forged key with an
unknown archetype id (panics; the history goes on), a write through a typed direct key, an
`ecs_iter_destroy!` whose closure removes one entity and then panics, a clone and
`clear_events`. -/
def histEx : List (Op Nat) :=
  [ .create 0 [10, 20] (codeGrowth cfgEx),
    .create 0 [11, 21] (codeGrowth cfgEx),
    .create 0 [12, 22] (codeGrowth cfgEx),
    .createWithin 1 [5],
    .iter [⟨0, [.comp 0 true, .ent]⟩] Nat
      (fun st _ => .ret (st + 1) [some (90 + st), none] .cont) 0,
    .find [⟨0, [.comp 1 true, .dirAny]⟩] Nat (fun st _ => .ret st [some 77, none] ())
      ⟨.any, 0, mkKey 1 3 1⟩ 0,
    .destroy ⟨true, false, ⟨.any, 0, mkKey 0 3 1⟩, none⟩,
    .destroy ⟨true, false, ⟨.any, 0, mkKey 0 3 1⟩, none⟩,
    .destroy ⟨true, false, ⟨.any, 0, mkKey 5 9 1⟩, none⟩,
    .write ⟨false, true, ⟨.dir, 0, mkKey 0 3 2⟩, none⟩ 1 55,
    .iterDestroy [⟨0, [.comp 0 false]⟩, ⟨1, []⟩] Nat
      (fun st args => match args with
        | [.comp _ 91] => .ret st [] .contDestroy
        | _ => .panic st []) 0,
    .cloneSwitch (· + 1),
    .clearEvents none ]

theorem histEx_ok : OpsOk cfgEx histEx := by
  have hg : GrowOk cfgEx (codeGrowth cfgEx) := codeGrowth_ok cfgEx
  exact ⟨hg, hg, hg, trivial⟩

theorem histEx_scoped : OpsScoped wEx.sch histEx := by
  unfold histEx
  simp only [OpsScoped_cons]
  -- one obligation per operation, in order
  refine ⟨rfl, rfl, rfl, rfl, ?_, ?_, KeyUse.scoped_of_untyped rfl, KeyUse.scoped_of_untyped rfl,
    KeyUse.scoped_of_untyped rfl, fun _ => (by decide : 0 < 2), ?_, trivial, trivial,
    fun _ h => nomatch h⟩
  · exact List.forall_mem_singleton.mpr (by decide : 0 < 2)
  · refine List.forall_mem_singleton.mpr ⟨2, rfl, fun c m hc => ?_⟩
    simp only [List.mem_cons, Param.comp.injEq, reduceCtorEq, List.not_mem_nil, or_false] at hc
    omega
  · exact List.forall_mem_cons.mpr
      ⟨(by decide : 0 < 2), List.forall_mem_singleton.mpr (by decide : 1 < 2)⟩

/-- The world `histEx` ends in: archetype 0 holds the one surviving entity `(2, 1)`. -/
def histExEnd : World Nat :=
  ⟨[3, 7],
   [⟨3, 1, 6, .free 1,
     [⟨.free 3, 2⟩, ⟨.free 0, 2⟩, ⟨.data 0, 1⟩, ⟨.free 4, 1⟩, ⟨.free 5, 1⟩, ⟨.freeEnd, 1⟩],
     [⟨2, 1⟩], [[93], [56]], [], []⟩,
    ⟨1, 0, 0, .freeEnd, [], [], [[]], [], []⟩]⟩

theorem histEx_run : run cfgEx wEx histEx = some histExEnd := rfl

-- the history evaluates: (len, capacity, version, handles, columns) per archetype
example : (run cfgEx wEx histEx).map
      (fun w => w.archs.map (fun s => (s.len, s.capacity, s.version, s.ents, s.cols)))
    = some [(1, 6, 3, [⟨2, 1⟩], [[93], [56]]), (0, 0, 1, [], [[]])] := by
  rw [histEx_run]; rfl

-- … and `run_inv` applies to it
example : ∃ w', run cfgEx wEx histEx = some w' ∧ WInv cfgEx w' ∧ w'.sch = [2, 1] := by
  obtain ⟨w', h1, h2, _, _, _, h6⟩ :=
    run_inv wEx_inv cfgEx_ok histEx_ok histEx_scoped
  exact ⟨w', h1, h2, h6⟩

/-! ### Counterexamples to the statements without `Scoped`

All from `wEx`, which satisfies `WInv`; `OpsOk` holds in each case.  They are artifacts of
referring to archetypes / columns by number, not defects of the implementation. -/

-- 1. (typed key use naming a non-existent archetype): see `WorldEx.uBad` in `WorldOps.lean`.
example : run cfgRel wEx [.destroy uBad] = none := rfl
example : run cfgRel wEx [.write uBad 0 5] = none := rfl

/-- 2. `create` / `ecs_iter!` on an archetype that does not exist. -/
example : run cfgEx wEx [.create 5 [] (codeGrowth cfgEx)] = none := rfl
example : run cfgEx wEx [.createWithin 5 []] = none := rfl
example : run cfgEx wEx [.iter [⟨7, []⟩] Unit (fun st _ => .ret st [] .cont) ()] = none := rfl
example : run cfgEx wEx [.iterDestroy [⟨7, []⟩] Unit (fun st _ => .ret st [] .cont) ()] = none :=
  rfl

/-- 3. `ecs_find!` binding a column that does not exist (`ecs_iter!` only panics there). -/
example : run cfgEx wEx
    [.create 0 [10, 20] (codeGrowth cfgEx),
     .find [⟨0, [.comp 5 false]⟩] Unit (fun st _ => .ret st [] ()) ⟨.any, 0, mkKey 0 3 1⟩ ()]
    = none := rfl

/-- 4. `Inv` does not fix the number of columns: a `create` with a row that is too short
truncates `cols` (`zipWith`), `Inv` still holds, and a later `ecs_find!` on a declared column
is `ub`.  Hence `OpsScoped w.sch` asks one value per column, and the column count, which neither
`Inv` nor `WInv` mentions, is carried along paths by `WRel.ncols` / `LPost.ncols`. -/
example : run cfgEx wEx
    [.create 0 [] (codeGrowth cfgEx),
     .find [⟨0, [.comp 0 false]⟩] Unit (fun st _ => .ret st [] ()) ⟨.any, 0, mkKey 0 3 1⟩ ()]
    = none := rfl

-- not a counterexample: `run_labelled_emits` applies to `histEx`
example : ∃ w', run cfgEx wEx histEx = some w'
    ∧ ∀ (a : Nat) (s s' : Storage Nat),
        wEx.archs[a]? = some s → w'.archs[a]? = some s' → ∃ L, LReach cfgEx s L s' := by
  obtain ⟨w', h1, _, _, h3⟩ :=
    run_labelled_emits wEx_inv cfgEx_ok histEx_ok histEx_scoped
  exact ⟨w', h1, fun a s s' g g' => let ⟨L, r, _⟩ := h3 a s s' g g'; ⟨L, r⟩⟩

-- a direct-key removal, the step that needs `Inv` to recover its label
example : ∃ l, LStep cfgEx HistEx.holeEx1 l HistEx.holeEx2 :=
  sstep_to_lstep HistEx.holeEx1_inv (.destroyDirect _ _ 0 2 [10, 20] HistEx.holeEx1_destroy)

end WorldEx
end Gecs

section
open Gecs
#print axioms applyWrites_reach
#print axioms iterLoop_spec
#print axioms destroyLoop_spec
#print axioms iterQuery_spec
#print axioms iterDestroyQuery_spec
#print axioms findQuery_spec
#print axioms stepOp_sat
#print axioms stepOp_spec
#print axioms run_append
#print axioms OpsOk_append
#print axioms run_rel
#print axioms run_wrel
#print axioms run_inv
#print axioms run_prefix
#print axioms run_capacity_mono
#print axioms WorldEx.wEx_winv
#print axioms lstep_to_sstep
#print axioms sstep_to_lstep
#print axioms sreach_to_lreach
#print axioms lreach_to_sreach
#print axioms sreach_iff_lreach
#print axioms stepOp_labelled
end
