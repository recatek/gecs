/-
History-level arguments about one storage.  Each atomic step (`SStep`) from a state satisfying
`Inv` is classified once (`SStep.effect`: quiet, a creation, a removal); every per-step fact is
read off that classification, and the facts about arbitrary paths are reflexive, transitive
relations lifted along `SReach` by one induction, `SReach.lift` (paths without a removal,
`SReachK`, have their own: `SReachK.spec`):

* C12: `Inv`, `len` / `capacity` bookkeeping;
* C01 / C08: a handle that has left the dense array never comes back, and a newly issued handle
  differs from every handle issued before (`Kept`: stale stays stale, stored stays stored or
  becomes stale; with the ghost set `seen` of all handles issued so far: `HInv`);
* C09: a direct handle `(d, archetype version)` is accepted later only if it still designates
  the entity it was issued for (`Later`: version monotone, same version ⇒ dense prefix kept).

Everything about generations is for the NON-wrapping configuration (`cfg.wrapping = false`);
with `wrapping_version` C08 is false by design (`C08_wrapping_witness`).
-/
import Gecs.Lemmas.StorageOps
import Gecs.Lemmas.Labelled

namespace Gecs
variable {α : Type}

theorem SReach.of_step {cfg : Cfg} {s s' : Storage α} (hi : Inv cfg s) (h : SStep cfg s s') :
    SReach cfg s s' :=
  .step (.refl s) hi h

theorem SReach.trans {cfg : Cfg} {s s' s'' : Storage α}
    (h1 : SReach cfg s s') (h2 : SReach cfg s' s'') : SReach cfg s s'' := by
  induction h2 with
  | refl => exact h1
  | step _ hi hs ih => exact .step ih hi hs

private theorem SReach.single {cfg : Cfg} {s s' : Storage α} (h : Inv cfg s) (hs : SStep cfg s s') :
    SReach cfg s s' := .of_step h hs

private theorem SReach.append {cfg : Cfg} {s s' s'' : Storage α} (h1 : SReach cfg s s')
    (h2 : SReach cfg s' s'') : SReach cfg s s'' := h1.trans h2

/-- The induction behind the path facts that are reflexive, transitive relations on storages
(`sreach_capacity_mono`, `sreach_kept`, `sreach_later`): such a relation holds along every path
once it holds for every atomic step from an `Inv` state. -/
theorem SReach.lift {cfg : Cfg} {R : Storage α → Storage α → Prop} {s s' : Storage α}
    (h : SReach cfg s s') (refl : ∀ s, R s s)
    (trans : ∀ {s s' s''}, R s s' → R s' s'' → R s s'')
    (step : ∀ {s s'}, Inv cfg s → SStep cfg s s' → R s s') : R s s' := by
  induction h with
  | refl => exact refl _
  | step _ hi hs ih => exact trans ih (step hi hs)

/-- The creating steps, with the handle they return. -/
inductive SCreate (cfg : Cfg) : Storage α → Storage α → Ent → Prop where
  | push (s s' : Storage α) (g : Nat → Nat) (row : List α) (e : Ent)
      (hg : s.capacity < cfg.maxCap → s.capacity < g s.capacity ∧ g s.capacity ≤ cfg.maxCap)
      (h : Gecs.push cfg g s row = .ok e s') : SCreate cfg s s' e
  | pushWithin (s s' : Storage α) (row : List α) (e : Ent)
      (h : Gecs.pushWithin cfg s row = .ok (some e) s') : SCreate cfg s s' e

/-- The removing steps, with the handle of the removed entity (for a direct key `(d, v)`:
the handle stored at dense index `d`). -/
inductive SRemove (cfg : Cfg) : Storage α → Storage α → Ent → Prop where
  | destroyEnt (s s' : Storage α) (e : Ent) (row : List α)
      (h : Gecs.destroyEnt cfg s e = .ok (some row) s') : SRemove cfg s s' e
  | destroyDirect (s s' : Storage α) (d v : Nat) (row : List α) (t : Ent)
      (ht : s.ents[d]? = some t)
      (h : Gecs.destroyDirect cfg s d v = .ok (some row) s') : SRemove cfg s s' t

theorem SCreate.sstep {cfg : Cfg} {s s' : Storage α} {e : Ent} (h : SCreate cfg s s' e) :
    SStep cfg s s' := by
  match h with
  | .push _ _ g row _ hg h => exact .push s s' g row e hg h
  | .pushWithin _ _ row _ h => exact .pushWithin s s' row e h

theorem SRemove.sstep {cfg : Cfg} {s s' : Storage α} {t : Ent} (h : SRemove cfg s s' t) :
    SStep cfg s s' := by
  match h with
  | .destroyEnt _ _ _ row h => exact .destroyEnt s s' t row h
  | .destroyDirect _ _ d v row _ _ h => exact .destroyDirect s s' d v row h

/-- Steps that touch neither the handles, the slots nor the scalar fields
(component write, `clear_events`, clone). -/
structure Quiet (s s' : Storage α) : Prop where
  ents : s'.ents = s.ents
  slots : s'.slots = s.slots
  version : s'.version = s.version
  cap : s'.capacity = s.capacity
  len : s'.len = s.len

/-- What a creating step does to the handle side of the storage. -/
structure CreateFacts (cfg : Cfg) (s s' : Storage α) (e : Ent) : Prop where
  inv' : Inv cfg s'
  len : s'.len = s.len + 1
  cap : s.capacity ≤ s'.capacity
  ents : s'.ents = s.ents ++ [e]
  notMem : e ∉ s.ents
  version : s'.version = s.version
  slotNew : ∃ sl : Slot, s'.slots[e.slot]? = some sl ∧ sl.ver = e.ver
  frame : ∀ (i : Nat) (sl : Slot), i ≠ e.slot → s.slots[i]? = some sl → s'.slots[i]? = some sl
  /-- if the slot existed before (no growth into it) it already carried the issued generation -/
  slotOld : ∀ sl : Slot, s.slots[e.slot]? = some sl → sl.ver = e.ver

theorem SCreate.created {cfg : Cfg} {s s' : Storage α} {e : Ent} (h : Inv cfg s)
    (hc : SCreate cfg s s' e) : ∃ row, Created cfg s row e s' := by
  match hc with
  | .push _ _ g row _ hg hp => exact ⟨row, (push_created h hg hp).1⟩
  | .pushWithin _ _ row _ hp => exact ⟨row, (pushWithin_created h hp).1⟩

theorem SCreate.facts {cfg : Cfg} {s s' : Storage α} {e : Ent} (h : Inv cfg s)
    (hc : SCreate cfg s s' e) : CreateFacts cfg s s' e :=
  let ⟨_, c⟩ := hc.created h
  ⟨c.inv, c.len, c.cap, c.ents, c.notMem, c.version, ⟨_, c.slot, rfl⟩, c.frame,
    fun sl hs => (c.wasFree sl hs).2⟩

theorem SRemove.removed {cfg : Cfg} {s s' : Storage α} {t : Ent} (h : Inv cfg s)
    (hr : SRemove cfg s s' t) : ∃ d row, Removed cfg s d t row s' := by
  match hr with
  | .destroyEnt _ _ _ row hde =>
    obtain ⟨d, r⟩ := Removed.of_destroyEnt h hde
    exact ⟨d, row, r⟩
  | .destroyDirect _ _ d v row _ ht hdd =>
    obtain ⟨_, t', r⟩ := Removed.of_destroyDirect h hdd
    cases ht.symm.trans r.pos
    exact ⟨d, row, r⟩

/-- What one atomic step does to a storage satisfying `Inv`: nothing on the handle side, a
creation, or a removal.  Every per-step fact is read off this.  `Created` and `Removed` include
`Inv` of the new state and what happens to the columns; `Quiet` is about the handle side only, so
the quiet case carries the two beside it. -/
inductive Effect (cfg : Cfg) (s s' : Storage α) : Prop where
  | quiet (q : Quiet s s') (ncols : s'.cols.length = s.cols.length) (inv : Inv cfg s')
  | created (row : List α) (e : Ent) (c : Created cfg s row e s')
  | removed (d : Nat) (t : Ent) (row : List α) (r : Removed cfg s d t row s')

theorem SStep.effect {cfg : Cfg} {s s' : Storage α} (h : Inv cfg s) (st : SStep cfg s s') :
    Effect cfg s s' := by
  cases st with
  | write d c x => exact .quiet ⟨rfl, rfl, rfl, rfl, rfl⟩ (writeCell_cols_length s d c x) (writeCell_inv h)
  | push _ g row e hg hp => exact .created row e (push_created h hg hp).1
  | pushWithin _ row e hp => exact .created row e (pushWithin_created h hp).1
  | destroyEnt _ e row hp => exact (Removed.of_destroyEnt h hp).elim fun d r => .removed d e row r
  | destroyDirect _ d v row hp =>
    exact (Removed.of_destroyDirect h hp).2.elim fun t r => .removed d t row r
  | clear => exact .quiet ⟨rfl, rfl, rfl, rfl, rfl⟩ rfl (clearEvents_inv h)
  | clone cl => exact .quiet ⟨rfl, rfl, rfl, rfl, rfl⟩ (by simp) (cloneStorage_inv h)

theorem SRemove.spec {cfg : Cfg} {s s' : Storage α} {t : Ent} (h : Inv cfg s)
    (hr : SRemove cfg s s' t) :
    t ∈ s.ents ∧ t ∉ s'.ents ∧ ∀ x, x ∈ s'.ents ↔ (x ∈ s.ents ∧ x ≠ t) := by
  obtain ⟨_, _, r⟩ := hr.removed h
  exact ⟨r.mem, fun hm => ((r.mem_iff h t).mp hm).2 rfl, r.mem_iff h⟩

theorem destroyDirect_removed {cfg : Cfg} {s s' : Storage α} {d v : Nat} {row : List α}
    (h : Inv cfg s) (hd : destroyDirect cfg s d v = .ok (some row) s') :
    ∃ t, s.ents[d]? = some t ∧ v = s.version ∧ SRemove cfg s s' t
      ∧ t ∈ s.ents ∧ t ∉ s'.ents ∧ ∀ x, x ∈ s'.ents ↔ (x ∈ s.ents ∧ x ≠ t) := by
  obtain ⟨hv, t, r⟩ := Removed.of_destroyDirect h hd
  have hr : SRemove cfg s s' t := .destroyDirect s s' d v row t r.pos hd
  exact ⟨t, r.pos, hv, hr, hr.spec h⟩

theorem sstep_inv {cfg : Cfg} {s s' : Storage α} (h : Inv cfg s) (hs : SStep cfg s s') :
    Inv cfg s' := by
  cases hs.effect h with
  | quiet _ _ hi => exact hi
  | created _ _ c => exact c.inv
  | removed _ _ _ r => exact r.inv

theorem SReach.inv {cfg : Cfg} {s s' : Storage α} (hi : Inv cfg s) (h : SReach cfg s s') :
    Inv cfg s' := by
  cases h with
  | refl => exact hi
  | step _ hi' hs => exact sstep_inv hi' hs

theorem sstep_capacity_mono {cfg : Cfg} {s s' : Storage α} (h : Inv cfg s)
    (hs : SStep cfg s s') : s.capacity ≤ s'.capacity := by
  cases hs.effect h with
  | quiet q _ _ => exact Nat.le_of_eq q.cap.symm
  | created _ _ c => exact c.cap
  | removed _ _ _ r => exact Nat.le_of_eq r.cap.symm

theorem sreach_capacity_mono {cfg : Cfg} {s s' : Storage α} (hr : SReach cfg s s') : s.capacity ≤ s'.capacity :=
  hr.lift (R := fun s s' => s.capacity ≤ s'.capacity) (fun _ => Nat.le_refl _) Nat.le_trans
    sstep_capacity_mono

theorem sstep_ncols_le {cfg : Cfg} {s s' : Storage α} (h : Inv cfg s) (hs : SStep cfg s s') :
    s'.cols.length ≤ s.cols.length := by
  cases hs.effect h with
  | quiet _ hn _ => exact Nat.le_of_eq hn
  | created _ _ c => exact c.cols_length_le
  | removed _ _ _ r => exact Nat.le_of_eq r.cols_length

/-- Equality is false: `SStep.push` with a row shorter than the number of columns truncates `cols`
(`zipWith`).  It holds along the steps taken by well-scoped operations (`WRel.ncols` in
`WorldRel.lean`). -/
theorem SReach.cols_length_le {cfg : Cfg} {s s' : Storage α} (_hi : Inv cfg s)
    (h : SReach cfg s s') : s'.cols.length ≤ s.cols.length :=
  h.lift (R := fun s s' => s'.cols.length ≤ s.cols.length) (fun _ => Nat.le_refl _)
    (fun h1 h2 => Nat.le_trans h2 h1) sstep_ncols_le

theorem sstep_len {cfg : Cfg} {s s' : Storage α} (h : Inv cfg s) (hs : SStep cfg s s') :
    (s'.len = s.len ∧ s'.ents = s.ents)
    ∨ (∃ e, s'.len = s.len + 1 ∧ s'.ents = s.ents ++ [e] ∧ e ∉ s.ents)
    ∨ (∃ t, s'.len + 1 = s.len ∧ t ∈ s.ents ∧ ∀ x, x ∈ s'.ents ↔ (x ∈ s.ents ∧ x ≠ t)) := by
  cases hs.effect h with
  | quiet q _ _ => exact .inl ⟨q.len, q.ents⟩
  | created _ e c => exact .inr (.inl ⟨e, c.len, c.ents, c.notMem⟩)
  | removed _ t _ r =>
    have := h.ents_lt r.pos
    exact .inr (.inr ⟨t, by rw [r.len]; omega, r.mem, r.mem_iff h⟩)

/-! ## Labelled steps

Each `LStep` (`Lemmas/Labelled.lean`) is an `SStep` that also names the handle and the row it
created or removed, and vice versa.  Only `destroyDirect` needs an argument: its label names the
removed handle `t = s.ents[d]`, which exists because a successful `destroyDirect` from an `Inv`
state has `d < s.len`. -/

theorem lstep_to_sstep {cfg : Cfg} {s s' : Storage α} {l : Lbl α} (h : LStep cfg s l s') :
    SStep cfg s s' := by
  cases h with
  | write d c x => exact .write s d c x
  | push _ g row e hg hp => exact .push s s' g row e hg hp
  | pushWithin _ row e hp => exact .pushWithin s s' row e hp
  | destroyEnt _ e row hp => exact .destroyEnt s s' e row hp
  | destroyDirect _ d v t row _ hp => exact .destroyDirect s s' d v row hp
  | clear => exact .clear s
  | clone cl => exact .clone s cl

theorem sstep_to_lstep {cfg : Cfg} {s s' : Storage α} (hi : Inv cfg s) (h : SStep cfg s s') :
    ∃ l, LStep cfg s l s' := by
  cases h with
  | write d c x => exact ⟨_, .write s d c x⟩
  | push _ g row e hg hp => exact ⟨_, .push s s' g row e hg hp⟩
  | pushWithin _ row e hp => exact ⟨_, .pushWithin s s' row e hp⟩
  | destroyEnt _ e row hp => exact ⟨_, .destroyEnt s s' e row hp⟩
  | destroyDirect _ d v row hp =>
    obtain ⟨_, t, r⟩ := Removed.of_destroyDirect hi hp
    exact ⟨_, .destroyDirect s s' d v t row r.pos hp⟩
  | clear => exact ⟨_, .clear s⟩
  | clone cl => exact ⟨_, .clone s cl⟩

theorem lreach_to_sreach {cfg : Cfg} {s s' : Storage α} {L : List (Lbl α)}
    (h : LReach cfg s L s') : SReach cfg s s' := by
  induction h with
  | refl => exact .refl s
  | step _ hi hl ih => exact .step ih hi (lstep_to_sstep hl)

theorem sreach_to_lreach {cfg : Cfg} {s s' : Storage α} (h : SReach cfg s s') :
    ∃ L, LReach cfg s L s' := by
  induction h with
  | refl => exact ⟨[], .refl s⟩
  | step _ hi hs ih =>
    obtain ⟨L, hL⟩ := ih
    obtain ⟨l, hl⟩ := sstep_to_lstep hi hs
    exact ⟨L ++ [l], .step hL hi hl⟩

theorem sreach_iff_lreach {cfg : Cfg} {s s' : Storage α} :
    SReach cfg s s' ↔ ∃ L, LReach cfg s L s' :=
  ⟨sreach_to_lreach, fun ⟨_, h⟩ => lreach_to_sreach h⟩

theorem lstep_inv {cfg : Cfg} {s s' : Storage α} {l : Lbl α} (h : Inv cfg s)
    (st : LStep cfg s l s') : Inv cfg s' :=
  sstep_inv h (lstep_to_sstep st)

/-- `Inv` at the end of a labelled path.  Read through `entsLen`, `colsLen` and `dense` / `sparse` it
says that handles, columns and slots stay in lock-step. -/
theorem lockstep {cfg : Cfg} {s s' : Storage α} {L : List (Lbl α)} (h : Inv cfg s)
    (r : LReach cfg s L s') : Inv cfg s' :=
  SReach.inv h (lreach_to_sreach r)

theorem lstep_created {cfg : Cfg} {s s' : Storage α} {e : Ent} {row : List α} (h : Inv cfg s)
    (st : LStep cfg s (.created e row) s') : Created cfg s row e s' := by
  cases st with
  | push _ g _ _ hg hp => exact (push_created h hg hp).1
  | pushWithin _ _ _ hp => exact (pushWithin_created h hp).1

theorem lstep_destroyed {cfg : Cfg} {s s' : Storage α} {t : Ent} {row : List α} (h : Inv cfg s)
    (st : LStep cfg s (.destroyed t row) s') : ∃ d, Removed cfg s d t row s' := by
  cases st with
  | destroyEnt _ _ _ hp => exact Removed.of_destroyEnt h hp
  | destroyDirect _ d v _ _ ht hp =>
    obtain ⟨_, t', r⟩ := Removed.of_destroyDirect h hp
    cases ht.symm.trans r.pos
    exact ⟨d, r⟩

/-! ## Handles never come back; new handles are fresh (C01, C08) -/

/-- The generation of `e`'s slot has moved strictly past `e`. -/
def Stale (s : Storage α) (e : Ent) : Prop :=
  ∃ sl : Slot, s.slots[e.slot]? = some sl ∧ e.ver < sl.ver

theorem Stale.not_mem {cfg : Cfg} {s : Storage α} {e : Ent} (h : Inv cfg s) (hs : Stale s e) :
    e ∉ s.ents := by
  intro hm
  obtain ⟨d, hd⟩ := List.getElem?_of_mem hm
  obtain ⟨sl, hsl, hlt⟩ := hs
  rw [h.dense d e hd] at hsl; cases hsl
  exact Nat.lt_irrefl _ hlt

/-- What every path keeps when generations do not wrap: a stale handle stays stale, and a stored
handle stays stored or becomes stale.  C01 at storage level follows from this relation being
reflexive, transitive and kept by each atomic step; C08 needs in addition that a creation returns a
handle that is neither stored nor stale (`create_fresh`). -/
structure Kept (s s' : Storage α) : Prop where
  stale : ∀ e, Stale s e → Stale s' e
  mem : ∀ e ∈ s.ents, e ∈ s'.ents ∨ Stale s' e

theorem Kept.refl (s : Storage α) : Kept s s := ⟨fun _ h => h, fun _ h => .inl h⟩

theorem Kept.trans {s s' s'' : Storage α} (h1 : Kept s s') (h2 : Kept s' s'') : Kept s s'' :=
  ⟨fun e h => h2.stale e (h1.stale e h),
   fun e h => (h1.mem e h).elim (h2.mem e) (fun hs => .inr (h2.stale e hs))⟩

theorem sstep_kept {cfg : Cfg} (hw : cfg.wrapping = false) {s s' : Storage α} (h : Inv cfg s)
    (hs : SStep cfg s s') : Kept s s' := by
  cases hs.effect h with
  | quiet q _ _ =>
    exact ⟨fun x hx => by unfold Stale; rw [q.slots]; exact hx,
      fun x hx => .inl (by rw [q.ents]; exact hx)⟩
  | created _ e c =>
    refine ⟨?_, fun x hx => .inl (by rw [c.ents]; exact List.mem_append_left _ hx)⟩
    rintro x ⟨sl, hsl, hlt⟩
    by_cases hxe : x.slot = e.slot
    · -- the reused slot keeps its generation
      rw [hxe] at hsl
      exact ⟨_, by rw [hxe]; exact c.slot, by have := (c.wasFree sl hsl).2; simp only; omega⟩
    · exact ⟨sl, c.frame _ _ hxe hsl, hlt⟩
  | removed d t _ r =>
    obtain ⟨sv, hsv, hslt⟩ := r.slot
    have hsv' := (nextVer_nowrap hw hsv).1
    refine ⟨?_, fun x hx => ?_⟩
    · rintro x ⟨sl, hsl, hlt⟩
      by_cases hxt : x.slot = t.slot
      · rw [hxt, h.dense d t r.pos] at hsl; cases hsl
        exact ⟨_, by rw [hxt]; exact hslt, by simp only at hlt ⊢; omega⟩
      · obtain ⟨sl', hsl', hv'⟩ := r.frame _ _ hxt hsl
        exact ⟨sl', hsl', by omega⟩
    · by_cases hxt : x = t
      · exact .inr ⟨_, by rw [hxt]; exact hslt, by rw [hxt]; simp only; omega⟩
      · exact .inl ((r.mem_iff h x).mpr ⟨hx, hxt⟩)

theorem sreach_kept {cfg : Cfg} (hw : cfg.wrapping = false) {s s' : Storage α}
    (hr : SReach cfg s s') : Kept s s' :=
  hr.lift Kept.refl Kept.trans (sstep_kept hw)

theorem sreach_dead_stays_dead {cfg : Cfg} (hw : cfg.wrapping = false) {s₀ s₁ s₂ : Storage α}
    (h : Inv cfg s₀) (r₁ : SReach cfg s₀ s₁) (r₂ : SReach cfg s₁ s₂) {e : Ent}
    (he₀ : e ∈ s₀.ents) (he₁ : e ∉ s₁.ents) : e ∉ s₂.ents := by
  have st₁ := ((sreach_kept hw r₁).mem e he₀).resolve_left he₁
  exact ((sreach_kept hw r₂).stale e st₁).not_mem (SReach.inv (SReach.inv h r₁) r₂)

/-- C01 at storage level: after the removal of `t`, at every later state `t ∉ ents`, i.e. `t`
does not resolve. -/
theorem C01_destroyed_stays_dead {cfg : Cfg} (hw : cfg.wrapping = false)
    {s s₁ s' : Storage α} {t : Ent} (h : Inv cfg s) (hrm : SRemove cfg s s₁ t)
    (hr : SReach cfg s₁ s') :
    t ∉ s'.ents ∧ ¬ ∃ d, resolveEntity cfg s' t = .ok (some (t.slot, d)) s' := by
  obtain ⟨hm, hnm, _⟩ := hrm.spec h
  have hdead := sreach_dead_stays_dead hw h (.of_step h hrm.sstep) hr hm hnm
  rw [resolveEntity_iff_mem cfg s' (SReach.inv (sstep_inv h hrm.sstep) hr) t]
  exact ⟨hdead, hdead⟩

/-- Ghost invariant, for statements about all handles issued so far and not only those stored
at the state one starts from.  `seen` is (a superset of) every handle that has ever been in the
dense array, used as a set.  A seen handle that is no longer stored is `Stale` (`stale_lt`, with
the body of `Stale` written out). -/
structure HInv (cfg : Cfg) (s : Storage α) (seen : List Ent) : Prop where
  inv : Inv cfg s
  live_seen : ∀ e ∈ s.ents, e ∈ seen
  stale_lt : ∀ e ∈ seen, e ∉ s.ents →
    ∃ sl : Slot, s.slots[e.slot]? = some sl ∧ e.ver < sl.ver

/-- Not used below.  It is why growth cannot disturb the argument: growth creates generation-1 slots
at indices `≥` the old capacity, and no seen handle has such a slot. -/
theorem HInv.seen_slot_lt {cfg : Cfg} {s : Storage α} {seen : List Ent}
    (h : HInv cfg s seen) : ∀ e ∈ seen, e.slot < s.capacity := by
  intro e he
  by_cases hm : e ∈ s.ents
  · obtain ⟨d, hd⟩ := List.getElem?_of_mem hm
    exact h.inv.ents_slot_lt hd
  · obtain ⟨sl, hsl, _⟩ := h.stale_lt e he hm
    have := (List.getElem?_eq_some_iff.mp hsl).1
    rw [h.inv.slotsLen] at this; exact this

theorem HInv.stale_ver_lt_vmax {cfg : Cfg} {s : Storage α} {seen : List Ent}
    (h : HInv cfg s seen) : ∀ e ∈ seen, e.ver < cfg.vmax ∨ e ∈ s.ents := by
  intro e he
  by_cases hm : e ∈ s.ents
  · exact .inr hm
  · obtain ⟨sl, hsl, hlt⟩ := h.stale_lt e he hm
    have := (h.inv.verPos _ _ hsl).2
    exact .inl (by omega)

/-- The ghost may be started at any state. -/
theorem HInv.of_inv {cfg : Cfg} {s : Storage α} (h : Inv cfg s) : HInv cfg s s.ents :=
  ⟨h, fun _ he => he, fun _ he hn => absurd he hn⟩

theorem HInv.init {cfg : Cfg} (hv : CfgOk cfg) {ncols cap : Nat} {s : Storage α}
    (h : withCapacity cfg ncols cap = .ok () s) : HInv cfg s [] := by
  obtain ⟨hc, rfl⟩ := withCapacity_ok_iff.mp h
  exact ⟨withCapacity_inv cfg ncols cap hc hv, fun _ he => (List.not_mem_nil he).elim,
    fun _ he => (List.not_mem_nil he).elim⟩

/-- `seen` is used as a set: it may be replaced by any list with the same members up to live
handles. -/
theorem HInv.mono {cfg : Cfg} {s : Storage α} {seen seen' : List Ent} (h : HInv cfg s seen)
    (h1 : ∀ e ∈ seen', e ∈ seen ∨ e ∈ s.ents) (h2 : ∀ e ∈ s.ents, e ∈ seen') :
    HInv cfg s seen' := by
  refine ⟨h.inv, h2, ?_⟩
  intro e he hn
  rcases h1 e he with h3 | h3
  · exact h.stale_lt e h3 hn
  · exact absurd h3 hn

/-- The ghost follows a `Kept` transition, growing by the handles stored afterwards (`seen` is
a set; duplicates do not matter). -/
theorem HInv.kept {cfg : Cfg} {s s' : Storage α} {seen : List Ent} (h : HInv cfg s seen)
    (hi : Inv cfg s') (k : Kept s s') : HInv cfg s' (seen ++ s'.ents) := by
  refine ⟨hi, fun x hx => List.mem_append_right _ hx, fun x hx hn => ?_⟩
  have hxs : x ∈ seen := (List.mem_append.mp hx).resolve_right hn
  by_cases hm : x ∈ s.ents
  · exact (k.mem x hm).resolve_left hn
  · exact k.stale x (h.stale_lt x hxs hm)

theorem sstep_hinv {cfg : Cfg} (hw : cfg.wrapping = false) {s s' : Storage α}
    {seen : List Ent} (h : HInv cfg s seen) (hs : SStep cfg s s') :
    HInv cfg s' (seen ++ s'.ents) :=
  h.kept (sstep_inv h.inv hs) (sstep_kept hw h.inv hs)

/-- The duplicate-free variant of the ghost update. -/
theorem sstep_hinv_filter {cfg : Cfg} (hw : cfg.wrapping = false) {s s' : Storage α}
    {seen : List Ent} (h : HInv cfg s seen) (hs : SStep cfg s s') :
    HInv cfg s' (seen ++ s'.ents.filter (· ∉ seen)) := by
  have h' := sstep_hinv hw h hs
  refine h'.mono ?_ ?_
  · intro e he
    rcases List.mem_append.mp he with h1 | h1
    · exact .inl (List.mem_append_left _ h1)
    · exact .inr (List.mem_filter.mp h1).1
  · intro e he
    by_cases hm : e ∈ seen
    · exact List.mem_append_left _ hm
    · exact List.mem_append_right _ (List.mem_filter.mpr ⟨he, by simpa using hm⟩)

/-- **C01 (history form).**  A seen handle that has left the dense array — its entity was
destroyed — is never in it again, no matter how often its slot or its dense position is reused
or how the archetype grows. -/
theorem no_resurrection {cfg : Cfg} (hw : cfg.wrapping = false) {s s' : Storage α}
    {seen : List Ent} (h : HInv cfg s seen) (hr : SReach cfg s s') :
    ∀ e ∈ seen, e ∉ s.ents → e ∉ s'.ents :=
  fun e he hn => ((sreach_kept hw hr).stale e (h.stale_lt e he hn)).not_mem (SReach.inv h.inv hr)

/-- The handle returned by a creation was neither stored nor stale. -/
theorem create_fresh {cfg : Cfg} {s s' : Storage α} {seen : List Ent} {e : Ent}
    (h : HInv cfg s seen) (hc : SCreate cfg s s' e) : e ∉ seen := by
  have f := hc.facts h.inv
  intro he
  obtain ⟨sl, hsl, hlt⟩ := h.stale_lt e he f.notMem
  have := f.slotOld sl hsl
  omega

theorem create_fresh_push {cfg : Cfg} {s s' : Storage α} {seen : List Ent} {e : Ent}
    {g : Nat → Nat} {row : List α} (h : HInv cfg s seen)
    (hg : s.capacity < cfg.maxCap → s.capacity < g s.capacity ∧ g s.capacity ≤ cfg.maxCap)
    (hp : push cfg g s row = .ok e s') : e ∉ seen :=
  create_fresh h (.push s s' g row e hg hp)

theorem create_fresh_pushWithin {cfg : Cfg} {s s' : Storage α} {seen : List Ent} {e : Ent}
    {row : List α} (h : HInv cfg s seen)
    (hp : pushWithin cfg s row = .ok (some e) s') : e ∉ seen :=
  create_fresh h (.pushWithin s s' row e hp)

/-- **C08 (history form).**  A handle returned by a creation at any later point differs from
every handle seen so far. -/
theorem fresh_forever {cfg : Cfg} (hw : cfg.wrapping = false) {s s₁ s₂ : Storage α}
    {seen : List Ent} {e : Ent} (h : HInv cfg s seen) (hr : SReach cfg s s₁)
    (hc : SCreate cfg s₁ s₂ e) : e ∉ seen :=
  fun he => create_fresh (h.kept (SReach.inv h.inv hr) (sreach_kept hw hr)) hc
    (List.mem_append_left _ he)

theorem fresh_forever_push {cfg : Cfg} (hw : cfg.wrapping = false) {s s₁ s₂ : Storage α}
    {seen : List Ent} {e : Ent} {g : Nat → Nat} {row : List α}
    (h : HInv cfg s seen) (hr : SReach cfg s s₁)
    (hg : s₁.capacity < cfg.maxCap → s₁.capacity < g s₁.capacity ∧ g s₁.capacity ≤ cfg.maxCap)
    (hp : push cfg g s₁ row = .ok e s₂) : e ∉ seen :=
  fresh_forever hw h hr (.push s₁ s₂ g row e hg hp)

theorem fresh_forever_pushWithin {cfg : Cfg} (hw : cfg.wrapping = false)
    {s s₁ s₂ : Storage α} {seen : List Ent} {e : Ent} {row : List α}
    (h : HInv cfg s seen) (hr : SReach cfg s s₁)
    (hp : pushWithin cfg s₁ row = .ok (some e) s₂) : e ∉ seen :=
  fresh_forever hw h hr (.pushWithin s₁ s₂ row e hp)

/-- Ghost-free form of C08: a handle that was stored at some state is never returned by a
later creation (whether or not its entity is still alive). -/
theorem C08_never_reissued {cfg : Cfg} (hw : cfg.wrapping = false) {s s₁ s₂ : Storage α}
    {x e : Ent} (h : Inv cfg s) (hx : x ∈ s.ents) (hr : SReach cfg s s₁)
    (hc : SCreate cfg s₁ s₂ e) : e ≠ x := by
  intro heq; subst heq
  exact fresh_forever hw (HInv.of_inv h) hr hc hx

theorem forceDestroy_overflow_panics {cfg : Cfg} (hw : cfg.wrapping = false) {s : Storage α}
    {d : Nat} {t : Ent} (h : Inv cfg s) (hd : s.ents[d]? = some t)
    (hv : t.ver = cfg.vmax ∨ s.version = cfg.vmax) :
    ∃ msg, forceDestroy cfg s t.slot d = .panic msg s := by
  rcases forceDestroy_outcome h hd with ⟨row, s', _, r⟩ | ⟨hp, _⟩ | ⟨hp, _⟩
  · obtain ⟨sv, hsv, _⟩ := r.slot
    rcases hv with hv | hv
    · have := (nextVer_nowrap hw hsv).2; omega
    · have := (nextVer_nowrap hw r.version).2; omega
  · exact ⟨_, hp⟩
  · exact ⟨_, hp⟩

/-- Generation overflow (non-wrapping): removing an entity whose slot generation, or whose
archetype's version, is at `vmax` panics with the state unchanged.  The entity simply stays
alive; nothing is reissued. -/
theorem overflow_blocks_reissue {cfg : Cfg} (hw : cfg.wrapping = false) {s : Storage α}
    {t : Ent} (h : Inv cfg s) (ht : t ∈ s.ents)
    (hv : t.ver = cfg.vmax ∨ s.version = cfg.vmax) :
    ∃ msg, destroyEnt cfg s t = .panic msg s := by
  obtain ⟨d, hd⟩ := List.getElem?_of_mem ht
  obtain ⟨m, hp⟩ := forceDestroy_overflow_panics hw h hd hv
  rw [destroyEnt_eq, resolveEntity_of_mem h hd, destroyAfter, hp]; exact ⟨m, rfl⟩

/-- `overflow_blocks_reissue` through a direct key. -/
theorem overflow_blocks_reissue_direct {cfg : Cfg} (hw : cfg.wrapping = false)
    {s : Storage α} {d : Nat} {t : Ent} (h : Inv cfg s) (hd : s.ents[d]? = some t)
    (hv : t.ver = cfg.vmax ∨ s.version = cfg.vmax) :
    ∃ msg, destroyDirect cfg s d s.version = .panic msg s := by
  obtain ⟨m, hp⟩ := forceDestroy_overflow_panics hw h hd hv
  rw [destroyDirect_eq, resolveDirect_of_lt h hd, destroyAfter, hp]; exact ⟨m, rfl⟩

/-! ## Direct handles (C09) -/

theorem isPrefix_getElem?_some {β : Type} {l l' : List β} (hp : l <+: l') {d : Nat} {x : β}
    (hx : l[d]? = some x) : l'[d]? = some x := by
  obtain ⟨r, rfl⟩ := hp
  rw [List.getElem?_append_left (List.getElem?_eq_some_iff.mp hx).1]; exact hx

/-- Relation between an earlier and a later state of one storage, as seen by direct handles:
the archetype version never decreases, and as long as it is unchanged the dense array only
grows at the end.  (With `wrapping_version` the clause `ver_le` fails after `vmax` removals:
the version wraps back to 1, and a direct handle taken `vmax` removals ago is accepted again —
the documented limitation of that feature.) -/
structure Later (s s' : Storage α) : Prop where
  ver_le : s.version ≤ s'.version
  same_prefix : s.version = s'.version → s.ents <+: s'.ents

theorem Later.refl (s : Storage α) : Later s s :=
  ⟨Nat.le_refl _, fun _ => List.prefix_refl _⟩

theorem Later.trans {s s' s'' : Storage α} (h1 : Later s s') (h2 : Later s' s'') :
    Later s s'' := by
  refine ⟨Nat.le_trans h1.ver_le h2.ver_le, ?_⟩
  intro heq
  have a := h1.ver_le
  have b := h2.ver_le
  have e1 : s.version = s'.version := by omega
  have e2 : s'.version = s''.version := by omega
  exact (h1.same_prefix e1).trans (h2.same_prefix e2)

/-- All that direct handles need of `Later`: as long as the version is unchanged, what was
stored at dense index `d` is still stored there. -/
theorem Later.same_at {s s' : Storage α} (l : Later s s') (hv : s.version = s'.version)
    {d : Nat} {e : Ent} (he : s.ents[d]? = some e) : s'.ents[d]? = some e :=
  isPrefix_getElem?_some (l.same_prefix hv) he

theorem SRemove.version {cfg : Cfg} (hw : cfg.wrapping = false) {s s' : Storage α} {t : Ent}
    (h : Inv cfg s) (hr : SRemove cfg s s' t) : s'.version = s.version + 1 :=
  let ⟨_, _, r⟩ := hr.removed h
  (nextVer_nowrap hw r.version).1

theorem sstep_version_cases {cfg : Cfg} (hw : cfg.wrapping = false) {s s' : Storage α}
    (h : Inv cfg s) (hs : SStep cfg s s') :
    (s'.version = s.version ∧ (s'.ents = s.ents ∨ ∃ e, s'.ents = s.ents ++ [e]))
    ∨ s'.version = s.version + 1 := by
  cases hs.effect h with
  | quiet q _ _ => exact .inl ⟨q.version, .inl q.ents⟩
  | created _ e c => exact .inl ⟨c.version, .inr ⟨e, c.ents⟩⟩
  | removed _ _ _ r => exact .inr (nextVer_nowrap hw r.version).1

theorem sstep_later {cfg : Cfg} (hw : cfg.wrapping = false) {s s' : Storage α}
    (h : Inv cfg s) (hs : SStep cfg s s') : Later s s' := by
  rcases sstep_version_cases hw h hs with ⟨hv, he | ⟨e, he⟩⟩ | hv
  · exact ⟨Nat.le_of_eq hv.symm, fun _ => by rw [he]; exact List.prefix_refl _⟩
  · exact ⟨Nat.le_of_eq hv.symm, fun _ => by rw [he]; exact List.prefix_append _ _⟩
  · exact ⟨by omega, fun heq => by omega⟩

theorem sreach_later {cfg : Cfg} (hw : cfg.wrapping = false) {s s' : Storage α}
    (hr : SReach cfg s s') : Later s s' :=
  hr.lift Later.refl Later.trans (sstep_later hw)

theorem sreach_lost_version_lt {cfg : Cfg} (hw : cfg.wrapping = false) {s s' : Storage α}
    (_h : Inv cfg s) (hr : SReach cfg s s') (hl : ∃ t ∈ s.ents, t ∉ s'.ents) :
    s.version < s'.version := by
  have l := sreach_later hw hr
  obtain ⟨t, ht, hn⟩ := hl
  exact Nat.lt_of_le_of_ne l.ver_le (fun heq => hn ((l.same_prefix heq).subset ht))

/-- A path that contains at least one removal (`D`: destroy). -/
inductive SReachD (cfg : Cfg) : Storage α → Storage α → Prop where
  | mk {s s₁ s₂ s' : Storage α} {t : Ent} : SReach cfg s s₁ → Inv cfg s₁ →
      SRemove cfg s₁ s₂ t → SReach cfg s₂ s' → SReachD cfg s s'

theorem SReachD.sreach {cfg : Cfg} {s s' : Storage α} (h : SReachD cfg s s') :
    SReach cfg s s' := by
  match h with
  | .mk h1 hi hr h2 => exact (SReach.step h1 hi hr.sstep).append h2

theorem sreach_version_lt_of_destroy {cfg : Cfg} (hw : cfg.wrapping = false)
    {s s' : Storage α} (h : SReachD cfg s s') : s.version < s'.version := by
  match h with
  | .mk h1 hi hr h2 =>
    have a := (sreach_later hw h1).ver_le
    have b := hr.version hw hi
    have c := (sreach_later hw h2).ver_le
    omega

/-- Steps other than removals: writes, creations (with growth), `clear_events`, clone (`K`: they keep
the version and the dense array as a prefix, `SKeep.spec`). -/
inductive SKeep (cfg : Cfg) : Storage α → Storage α → Prop where
  | write (s : Storage α) (d c : Nat) (x : α) : SKeep cfg s (writeCell s d c x)
  | create {s s' : Storage α} {e : Ent} : SCreate cfg s s' e → SKeep cfg s s'
  | clear (s : Storage α) : SKeep cfg s (clearEvents s)
  | clone (s : Storage α) (cl : α → α) : SKeep cfg s { s with cols := s.cols.map (·.map cl) }

theorem SKeep.sstep {cfg : Cfg} {s s' : Storage α} (h : SKeep cfg s s') : SStep cfg s s' := by
  match h with
  | .write _ d c x => exact .write s d c x
  | .create hc => exact hc.sstep
  | .clear _ => exact .clear s
  | .clone _ cl => exact .clone s cl

inductive SReachK (cfg : Cfg) : Storage α → Storage α → Prop where
  | refl (s : Storage α) : SReachK cfg s s
  | step {s s' s'' : Storage α} : SReachK cfg s s' → Inv cfg s' → SKeep cfg s' s'' →
      SReachK cfg s s''

theorem SReachK.sreach {cfg : Cfg} {s s' : Storage α} (h : SReachK cfg s s') :
    SReach cfg s s' := by
  induction h with
  | refl => exact .refl _
  | step _ hi hk ih => exact .step ih hi hk.sstep

theorem SKeep.spec {cfg : Cfg} {s s' : Storage α} (h : Inv cfg s) (hk : SKeep cfg s s') :
    s'.version = s.version ∧ s.ents <+: s'.ents := by
  match hk with
  | .write _ d c x => exact ⟨rfl, List.prefix_refl _⟩
  | .create hc =>
    have f := hc.facts h
    exact ⟨f.version, by rw [f.ents]; exact List.prefix_append _ _⟩
  | .clear _ => exact ⟨rfl, List.prefix_refl _⟩
  | .clone _ cl => exact ⟨rfl, List.prefix_refl _⟩

theorem SReachK.spec {cfg : Cfg} {s s' : Storage α} (hr : SReachK cfg s s') :
    s'.version = s.version ∧ s.ents <+: s'.ents := by
  induction hr with
  | refl => exact ⟨rfl, List.prefix_refl _⟩
  | step _ hi hk ih =>
    obtain ⟨a, b⟩ := hk.spec hi
    exact ⟨by rw [a, ih.1], ih.2.trans b⟩

/-- **C09, issue.**  The direct handle `(d, s.version)` of a stored entity is accepted in the
state it is issued in (no debug assertion fires). -/
theorem C09_issue {cfg : Cfg} {s : Storage α} {d : Nat} {e : Ent} (h : Inv cfg s)
    (he : s.ents[d]? = some e) :
    ∃ si, resolveDirect cfg s d s.version = .ok (some (si, d)) s :=
  ⟨e.slot, resolveDirect_of_lt h he⟩

/-- **C09, safety.**  Whenever the direct handle issued for `e` at `s` is accepted at a later
state, it designates the very entity it was issued for. -/
theorem C09_safe {cfg : Cfg} (hw : cfg.wrapping = false) {s s' : Storage α} {d : Nat}
    {e : Ent} (h : Inv cfg s) (he : s.ents[d]? = some e) (hr : SReach cfg s s')
    (hacc : ∃ si, resolveDirect cfg s' d s.version = .ok (some (si, d)) s') :
    s'.ents[d]? = some e := by
  have hv := ((resolveDirect_iff cfg s' d s.version (SReach.inv h hr)).mp hacc).1
  exact (sreach_later hw hr).same_at hv he

/-- `C09_safe` for any in-range dense index: the handle `(d, s.version)`, `d < s.len`, if accepted
later, designates whatever was stored at `d` when it was issued. -/
theorem C09_safe_idx {cfg : Cfg} (hw : cfg.wrapping = false) {s s' : Storage α} {d : Nat}
    (h : Inv cfg s) (hd : d < s.len) (hr : SReach cfg s s')
    (hacc : ∃ si, resolveDirect cfg s' d s.version = .ok (some (si, d)) s') :
    s'.ents[d]? = s.ents[d]? := by
  obtain ⟨e, he⟩ := h.ents_get hd
  rw [he]; exact C09_safe hw h he hr hacc

/-- `C09_safe` with the slot index: the one `resolve_direct` returns is that entity's. -/
theorem C09_safe_slot {cfg : Cfg} (hw : cfg.wrapping = false) {s s' : Storage α} {d : Nat}
    {e : Ent} (h : Inv cfg s) (he : s.ents[d]? = some e) (hr : SReach cfg s s') {si : Nat}
    (hacc : resolveDirect cfg s' d s.version = .ok (some (si, d)) s') :
    si = e.slot ∧ s'.ents[d]? = some e := by
  have h' := SReach.inv h hr
  have hd := C09_safe hw h he hr ⟨si, hacc⟩
  have hv := ((resolveDirect_iff cfg s' d s.version h').mp ⟨si, hacc⟩).1
  have := resolveDirect_of_lt h' hd
  rw [← hv, hacc] at this
  simp only [Out.ok.injEq, Option.some.injEq, Prod.mk.injEq, and_true] at this
  exact ⟨this, hd⟩

/-- **C09, death.**  After any removal in the archetype the handle is never accepted again:
`resolve_direct` answers `None`. -/
theorem C09_dies_exact {cfg : Cfg} (hw : cfg.wrapping = false) {s s₁ s₂ s' : Storage α}
    {t : Ent} (d : Nat) (h : Inv cfg s) (h1 : SReach cfg s s₁) (hrm : SRemove cfg s₁ s₂ t)
    (h2 : SReach cfg s₂ s') : resolveDirect cfg s' d s.version = .ok none s' := by
  have hlt := sreach_version_lt_of_destroy hw (.mk h1 (SReach.inv h h1) hrm h2)
  exact resolveDirect_of_ver_ne cfg s' d (by omega)

theorem C09_dies {cfg : Cfg} (hw : cfg.wrapping = false) {s s₁ s₂ s' : Storage α}
    {t : Ent} (d : Nat) (h : Inv cfg s) (h1 : SReach cfg s s₁) (hrm : SRemove cfg s₁ s₂ t)
    (h2 : SReach cfg s₂ s') :
    ¬ ∃ si, resolveDirect cfg s' d s.version = .ok (some (si, d)) s' := by
  rintro ⟨si, hsi⟩
  rw [C09_dies_exact hw d h h1 hrm h2] at hsi; cases hsi

/-- Along a path without removals (only writes, creations, growth, clears, clone) the handle
stays accepted and keeps designating `e`.  No assumption on wrapping. -/
theorem C09_lives_keep {cfg : Cfg} {s s' : Storage α} {d : Nat} {e : Ent} (h : Inv cfg s)
    (he : s.ents[d]? = some e) (hr : SReachK cfg s s') :
    resolveDirect cfg s' d s.version = .ok (some (e.slot, d)) s' ∧ s'.ents[d]? = some e := by
  have h' := SReach.inv h hr.sreach
  obtain ⟨hv, hp⟩ := hr.spec
  have hd := isPrefix_getElem?_some hp he
  rw [← hv]; exact ⟨resolveDirect_of_lt h' hd, hd⟩

/-! ## C08 fails by design with `wrapping_version`

One slot, `vmax = 2`: create, destroy, create, destroy, create.  The generation of slot 0 goes
1 → 2 → (wraps) 1, and the third creation returns the handle `(0, 1)` of the first. -/
namespace HistEx

def cfgW : Cfg := ⟨1, 2, true, false, false⟩

def w0 : Storage Nat := ⟨1, 0, 1, .free 0, [⟨.freeEnd, 1⟩], [], [[]], [], []⟩
def w1 : Storage Nat := ⟨1, 1, 1, .freeEnd, [⟨.data 0, 1⟩], [⟨0, 1⟩], [[7]], [], []⟩
def w2 : Storage Nat := ⟨2, 0, 1, .free 0, [⟨.freeEnd, 2⟩], [], [[]], [], []⟩
def w3 : Storage Nat := ⟨2, 1, 1, .freeEnd, [⟨.data 0, 2⟩], [⟨0, 2⟩], [[8]], [], []⟩
def w4 : Storage Nat := ⟨1, 0, 1, .free 0, [⟨.freeEnd, 1⟩], [], [[]], [], []⟩
def w5 : Storage Nat := ⟨1, 1, 1, .freeEnd, [⟨.data 0, 1⟩], [⟨0, 1⟩], [[9]], [], []⟩

theorem step0 : withCapacity cfgW 1 1 = .ok () w0 := rfl
theorem step1 : pushWithin cfgW w0 [7] = .ok (some ⟨0, 1⟩) w1 := rfl
theorem step2 : destroyEnt cfgW w1 ⟨0, 1⟩ = .ok (some [7]) w2 := rfl
theorem step3 : pushWithin cfgW w2 [8] = .ok (some ⟨0, 2⟩) w3 := rfl
theorem step4 : destroyEnt cfgW w3 ⟨0, 2⟩ = .ok (some [8]) w4 := rfl
theorem step5 : pushWithin cfgW w4 [9] = .ok (some ⟨0, 1⟩) w5 := rfl

end HistEx

open HistEx in
/-- With `wrapping_version` the same handle is issued twice (model functions run directly). -/
theorem C08_wrapping_witness :
    ∃ (s0 s1 s2 s3 s4 s5 : Storage Nat) (e e' : Ent) (r1 r2 : List Nat),
      cfgW.wrapping = true ∧ cfgW.vmax = 2
      ∧ withCapacity cfgW 1 1 = .ok () s0
      ∧ pushWithin cfgW s0 [7] = .ok (some e) s1
      ∧ destroyEnt cfgW s1 e = .ok (some r1) s2
      ∧ pushWithin cfgW s2 [8] = .ok (some e') s3
      ∧ destroyEnt cfgW s3 e' = .ok (some r2) s4
      ∧ pushWithin cfgW s4 [9] = .ok (some e) s5 :=
  ⟨w0, w1, w2, w3, w4, w5, ⟨0, 1⟩, ⟨0, 2⟩, [7], [8], rfl, rfl,
    step0, step1, step2, step3, step4, step5⟩

namespace HistEx

theorem cfgW_ok : CfgOk cfgW := ⟨by decide⟩

theorem w0_inv : Inv cfgW w0 := (HInv.init cfgW_ok step0).inv
theorem w1_inv : Inv cfgW w1 := sstep_inv w0_inv (.pushWithin _ _ _ _ step1)
theorem w2_inv : Inv cfgW w2 := sstep_inv w1_inv (.destroyEnt _ _ _ _ step2)
theorem w3_inv : Inv cfgW w3 := sstep_inv w2_inv (.pushWithin _ _ _ _ step3)
theorem w4_inv : Inv cfgW w4 := sstep_inv w3_inv (.destroyEnt _ _ _ _ step4)

theorem w2_hinv : HInv cfgW w2 [⟨0, 1⟩] := by
  refine ⟨w2_inv, (by intro e he; cases he), ?_⟩
  intro e he _
  simp only [List.mem_singleton] at he; subst he
  exact ⟨⟨.freeEnd, 2⟩, rfl, by decide⟩

end HistEx

open HistEx in
/-- The conclusions of `no_resurrection` and `fresh_forever` are false for a wrapping
configuration: all their other hypotheses hold here, yet the stale handle `(0, 1)` is back in
the dense array, returned by a creation. -/
theorem C08_wrapping_resurrection :
    ∃ (s s₁ s' : Storage Nat) (seen : List Ent) (e : Ent),
      HInv cfgW s seen ∧ SReach cfgW s s₁ ∧ SCreate cfgW s₁ s' e
      ∧ e ∈ seen ∧ e ∉ s.ents ∧ e ∈ s'.ents :=
  ⟨w2, w4, w5, [⟨0, 1⟩], ⟨0, 1⟩, w2_hinv,
    .step (.step (.refl _) w2_inv (.pushWithin _ _ _ _ step3)) w3_inv (.destroyEnt _ _ _ _ step4),
    .pushWithin _ _ [9] _ step5, by decide, by decide, by decide⟩

/-! ## Non-vacuity (non-wrapping configuration `cfgEx`, 3-slot storage `holeEx`) -/
namespace HistEx
open StorageEx

/-- `holeEx`: handles `(0,1)`, `(2,1)` live, slot 1 free at generation 2, so `(1,1)` is a stale
handle that was seen earlier. -/
theorem holeEx_hinv : HInv cfgEx holeEx [⟨0, 1⟩, ⟨2, 1⟩, ⟨1, 1⟩] := by
  refine ⟨holeEx_inv, by decide, ?_⟩
  intro e he hn
  simp only [List.mem_cons, List.not_mem_nil, or_false] at he
  rcases he with rfl | rfl | rfl
  · exact absurd (by decide) hn
  · exact absurd (by decide) hn
  · exact ⟨⟨.freeEnd, 2⟩, rfl, by decide⟩

example : cfgEx.wrapping = false := rfl
example : (⟨1, 1⟩ : Ent) ∈ [(⟨0, 1⟩ : Ent), ⟨2, 1⟩, ⟨1, 1⟩] ∧ (⟨1, 1⟩ : Ent) ∉ holeEx.ents := by
  decide

/-- a creation on `holeEx` (reusing slot 1, now at generation 2) … -/
def holeEx1 : Storage Nat :=
  ⟨2, 3, 3, .freeEnd, [⟨.data 0, 1⟩, ⟨.data 2, 2⟩, ⟨.data 1, 1⟩], [⟨0, 1⟩, ⟨2, 1⟩, ⟨1, 2⟩],
    [[10, 12, 13], [20, 22, 23]], [⟨1, 2⟩], []⟩

theorem holeEx_create : pushWithin cfgEx holeEx [13, 23] = .ok (some ⟨1, 2⟩) holeEx1 := rfl

/-- … returns a handle that differs from all three seen handles -/
example : (⟨1, 2⟩ : Ent) ∉ [(⟨0, 1⟩ : Ent), ⟨2, 1⟩, ⟨1, 1⟩] :=
  create_fresh_pushWithin holeEx_hinv holeEx_create

/-- … and the stale handle `(1,1)` stays out although its slot is occupied again -/
example : (⟨1, 1⟩ : Ent) ∉ holeEx1.ents :=
  no_resurrection rfl holeEx_hinv (SReach.single holeEx_inv (.pushWithin _ _ _ _ holeEx_create))
    ⟨1, 1⟩ (by decide) (by decide)

/-- then the entity in slot 0 (dense index 0) is removed through its direct handle `(0, 2)` -/
def holeEx2 : Storage Nat :=
  ⟨3, 2, 3, .free 0, [⟨.freeEnd, 2⟩, ⟨.data 0, 2⟩, ⟨.data 1, 1⟩], [⟨1, 2⟩, ⟨2, 1⟩],
    [[13, 12], [23, 22]], [⟨1, 2⟩], [⟨0, 1⟩]⟩

theorem holeEx1_destroy : destroyDirect cfgEx holeEx1 0 2 = .ok (some [10, 20]) holeEx2 := rfl

theorem holeEx1_inv : Inv cfgEx holeEx1 :=
  sstep_inv holeEx_inv (.pushWithin _ _ _ _ holeEx_create)

theorem holeEx1_remove : SRemove cfgEx holeEx1 holeEx2 ⟨0, 1⟩ :=
  .destroyDirect _ _ 0 2 [10, 20] ⟨0, 1⟩ rfl holeEx1_destroy

-- C09 on this history: the direct handle (1, 2) issued at `holeEx` for entity (2,1) …
example : ∃ si, resolveDirect cfgEx holeEx 1 holeEx.version = .ok (some (si, 1)) holeEx :=
  C09_issue holeEx_inv (e := ⟨2, 1⟩) rfl
-- … survives the creation …
example : resolveDirect cfgEx holeEx1 1 holeEx.version = .ok (some (2, 1)) holeEx1
    ∧ holeEx1.ents[1]? = some ⟨2, 1⟩ :=
  C09_lives_keep holeEx_inv (e := ⟨2, 1⟩) rfl
    (.step (.refl _) holeEx_inv (.create (.pushWithin _ _ _ _ holeEx_create)))
-- … and dies with the removal of another entity, although entity (2,1) is still at index 1
example : resolveDirect cfgEx holeEx2 1 holeEx.version = .ok none holeEx2 :=
  C09_dies_exact rfl 1 holeEx_inv
    (SReach.single holeEx_inv (.pushWithin _ _ _ _ holeEx_create)) holeEx1_remove (.refl _)
example : holeEx2.ents[1]? = some ⟨2, 1⟩ := rfl

/-- a further creation reuses slot 0, now at generation 2 -/
def holeEx3 : Storage Nat :=
  ⟨3, 3, 3, .freeEnd, [⟨.data 2, 2⟩, ⟨.data 0, 2⟩, ⟨.data 1, 1⟩], [⟨1, 2⟩, ⟨2, 1⟩, ⟨0, 2⟩],
    [[13, 12, 14], [23, 22, 24]], [⟨1, 2⟩, ⟨0, 2⟩], [⟨0, 1⟩]⟩

theorem holeEx2_create : pushWithin cfgEx holeEx2 [14, 24] = .ok (some ⟨0, 2⟩) holeEx3 := rfl

theorem holeEx_reach2 : SReach cfgEx holeEx holeEx2 :=
  .step (SReach.single holeEx_inv (.pushWithin _ _ _ _ holeEx_create)) holeEx1_inv
    holeEx1_remove.sstep

-- `sstep_hinv`: the ghost after the first creation
example : HInv cfgEx holeEx1 ([⟨0, 1⟩, ⟨2, 1⟩, ⟨1, 1⟩] ++ holeEx1.ents) :=
  sstep_hinv rfl holeEx_hinv (.pushWithin _ _ _ _ holeEx_create)

-- `fresh_forever`: two steps later the creation returns (0,2), different from all three
-- handles seen at `holeEx` — in particular from (0,1), the previous tenant of slot 0
example : (⟨0, 2⟩ : Ent) ∉ [(⟨0, 1⟩ : Ent), ⟨2, 1⟩, ⟨1, 1⟩] :=
  fresh_forever_pushWithin rfl holeEx_hinv holeEx_reach2 holeEx2_create

-- `C09_safe`: a handle accepted after the creation still designates entity (2,1)
example : holeEx1.ents[1]? = some ⟨2, 1⟩ :=
  C09_safe rfl holeEx_inv (e := ⟨2, 1⟩) rfl
    (SReach.single holeEx_inv (.pushWithin _ _ _ _ holeEx_create)) ⟨2, rfl⟩

-- C01: the removed handle (0,1) never resolves again
example : (⟨0, 1⟩ : Ent) ∉ holeEx2.ents :=
  (C01_destroyed_stays_dead rfl holeEx1_inv holeEx1_remove (.refl _)).1

-- overflow: `ovfEx` holds an entity whose slot generation is `vmax = 5`
example : ∃ msg, destroyEnt cfgEx ovfEx ⟨0, 5⟩ = .panic msg ovfEx :=
  overflow_blocks_reissue rfl ovfEx_inv (by decide) (.inl rfl)
example : ∃ msg, destroyEnt cfgEx archOvfEx ⟨0, 1⟩ = .panic msg archOvfEx :=
  overflow_blocks_reissue rfl archOvfEx_inv (by decide) (.inr rfl)

-- C12 on the history holeEx → holeEx1 → holeEx2
example : holeEx.capacity ≤ holeEx2.capacity ∧ Inv cfgEx holeEx2
    ∧ holeEx2.len = holeEx2.ents.length := by
  have hr := holeEx_reach2
  exact ⟨sreach_capacity_mono hr, SReach.inv holeEx_inv hr,
    (SReach.inv holeEx_inv hr).entsLen.symm⟩

-- `HInv.init` / growth: a fresh storage of capacity 0 grows on the first create
example : ∃ s : Storage Nat, withCapacity cfgEx 1 0 = .ok () s ∧ HInv cfgEx s [] :=
  ⟨_, rfl, HInv.init (ncols := 1) (cap := 0) cfgEx_ok rfl⟩

-- growth: `fullEx` is full (capacity 2); `push` grows it to capacity 6.  The ghost invariant
-- survives the growth step and the new handle is fresh.
example : ∃ e s', push cfgEx (codeGrowth cfgEx) fullEx [12] = .ok e s' ∧ s'.capacity = 6
    ∧ HInv cfgEx s' (fullEx.ents ++ s'.ents) ∧ e ∉ fullEx.ents := by
  obtain ⟨e, s', h1, _, h9⟩ :=
    push_ok (g := codeGrowth cfgEx) [12] fullEx_inv (fun hh => codeGrowth_ok cfgEx _ hh)
      (by decide : fullEx.len < cfgEx.maxCap)
  have hs : SCreate cfgEx fullEx s' e :=
    .push _ _ _ _ _ (fun hh => codeGrowth_ok cfgEx _ hh) h1
  exact ⟨e, s', h1, by rw [h9]; decide,
    sstep_hinv rfl (HInv.of_inv fullEx_inv) hs.sstep, create_fresh (HInv.of_inv fullEx_inv) hs⟩

end HistEx
end Gecs

section
open Gecs
#print axioms SStep.effect
#print axioms sstep_inv
#print axioms lstep_created
#print axioms lstep_destroyed
#print axioms lstep_inv
#print axioms lockstep
#print axioms SReach.inv
#print axioms SReach.cols_length_le
#print axioms sstep_capacity_mono
#print axioms sreach_capacity_mono
#print axioms sstep_len
#print axioms HInv.init
#print axioms HInv.of_inv
#print axioms create_fresh
#print axioms SRemove.spec
#print axioms destroyDirect_removed
#print axioms sstep_hinv
#print axioms sstep_hinv_filter
#print axioms sreach_dead_stays_dead
#print axioms no_resurrection
#print axioms C01_destroyed_stays_dead
#print axioms fresh_forever
#print axioms fresh_forever_push
#print axioms fresh_forever_pushWithin
#print axioms C08_never_reissued
#print axioms C08_wrapping_witness
#print axioms C08_wrapping_resurrection
#print axioms overflow_blocks_reissue
#print axioms overflow_blocks_reissue_direct
#print axioms Later.refl
#print axioms Later.trans
#print axioms sstep_later
#print axioms sreach_later
#print axioms sreach_lost_version_lt
#print axioms sreach_version_lt_of_destroy
#print axioms C09_issue
#print axioms C09_safe
#print axioms C09_safe_idx
#print axioms C09_safe_slot
#print axioms C09_dies
#print axioms C09_dies_exact
#print axioms C09_lives_keep
end
