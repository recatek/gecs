/-
The statement-level tie (Lemmas/GenSteps.lean) lifted to the storage API the history theorems
speak about: `push` (= `Archetype::create`), `push_within_capacity`, and `destroy` through a
slot-map handle or a direct handle, each re-stated with the three mutating primitives REPLACED
by the interpreter running the statement lists extracted from the current source
(`pushS`, `pushWithinS`, `destroyEntS`, `destroyDirectS`).  Under the representation invariant
they are the model's operations — so every theorem of Props/ about histories of `push` /
`destroy` is a theorem about histories of the extracted statements.
-/
import Gecs.Lemmas.GenSteps
import Gecs.Lemmas.StorageOps
import Gecs.Lemmas.Reach

namespace Gecs

variable {α : Type}

/-! `Out.same`: equality, except that two `ub` outcomes need not agree on their message. -/

theorem Out.same_refl {σ β : Type} (a : Out σ β) : Out.same a a := by
  cases a <;> simp [Out.same]

theorem Out.same_cases {σ β : Type} {a b : Out σ β} (h : Out.same a b) :
    a = b ∨ ∃ m n, a = .ub m ∧ b = .ub n := by
  cases a <;> cases b <;> simp [Out.same] at h ⊢
  · exact h
  · exact h

theorem Out.same_symm {σ β : Type} {a b : Out σ β} (h : Out.same a b) : Out.same b a := by
  rcases Out.same_cases h with rfl | ⟨_, _, rfl, rfl⟩
  · exact Out.same_refl _
  · trivial

theorem Out.same_ok {σ β : Type} {a b : Out σ β} (h : Out.same a b) {x : β} {s : σ}
    (ha : a = .ok x s) : b = .ok x s := by
  rcases Out.same_cases h with rfl | ⟨_, _, rfl, _⟩
  · exact ha
  · cases ha

theorem Out.same_panic {σ β : Type} {a b : Out σ β} (h : Out.same a b) {m : String} {s : σ}
    (ha : a = .panic m s) : b = .panic m s := by
  rcases Out.same_cases h with rfl | ⟨_, _, rfl, _⟩
  · exact ha
  · cases ha

theorem Out.same_not_ub {σ β : Type} {a b : Out σ β} (h : Out.same a b) (hb : ∀ m, b ≠ .ub m) :
    ∀ m, a ≠ .ub m := by
  rcases Out.same_cases h with rfl | ⟨_, n, _, rfl⟩
  · exact hb
  · exact absurd rfl (hb n)

theorem Out.same_mapSome {σ β γ : Type} (f : β → γ) {a b : Out σ (Option β)} (h : Out.same a b) :
    Out.same (a.mapSome f) (b.mapSome f) := by
  rcases Out.same_cases h with rfl | ⟨_, _, rfl, rfl⟩
  · exact Out.same_refl _
  · trivial

theorem Inv.denseOk {cfg : Cfg} {s : Storage α} (h : Inv cfg s) : DenseOk s := ⟨h.entsLen, h.colsLen⟩

/-- `StorageN::push` with `grow` and `force_create` run from the extracted statement lists. -/
def pushS (cfg : Cfg) (g : Nat → Nat) (s : Storage α) (row : List α) : Out (Storage α) Ent :=
  if s.len ≥ s.capacity then
    match execGrow cfg Gen.growSteps s (g s.capacity) with
    | .ok none _ => .panic "capacity overflow" s
    | .ok (some s') _ => execCreate cfg Gen.slotBodies Gen.forceCreateSteps s' row
    | .panic m _ => .panic m s
    | .ub m => .ub m
  else execCreate cfg Gen.slotBodies Gen.forceCreateSteps s row

/-- `StorageN::push_within_capacity` with `force_create` run from the extracted statements. -/
def pushWithinS (cfg : Cfg) (s : Storage α) (row : List α) : Out (Storage α) (Option Ent) :=
  if s.len ≥ s.capacity then .ok none s
  else match execCreate cfg Gen.slotBodies Gen.forceCreateSteps s row with
    | .ok e s' => .ok (some e) s'
    | .panic m s' => .panic m s'
    | .ub m => .ub m

/-- `resolve_destroy` for `Entity<A>` with `force_destroy` run from the extracted statements. -/
def destroyEntS (cfg : Cfg) (s : Storage α) (e : Ent) : Out (Storage α) (Option (List α)) :=
  match resolveEntity cfg s e with
  | .ok (some (si, d)) _ =>
    (match execDestroy cfg Gen.slotBodies Gen.forceDestroySteps s si d with
    | .ok r s' => .ok (some r) s'
    | .panic m s' => .panic m s'
    | .ub m => .ub m)
  | .ok none _ => .ok none s
  | .panic m s' => .panic m s'
  | .ub m => .ub m

/-- `resolve_destroy` for `EntityDirect<A>` with `force_destroy` run from the extracted statements. -/
def destroyDirectS (cfg : Cfg) (s : Storage α) (d v : Nat) : Out (Storage α) (Option (List α)) :=
  match resolveDirect cfg s d v with
  | .ok (some (si, d')) _ =>
    (match execDestroy cfg Gen.slotBodies Gen.forceDestroySteps s si d' with
    | .ok r s' => .ok (some r) s'
    | .panic m s' => .panic m s'
    | .ub m => .ub m)
  | .ok none _ => .ok none s
  | .panic m s' => .panic m s'
  | .ub m => .ub m

theorem gen_steps_push (cfg : Cfg) (g : Nat → Nat) (s : Storage α) (row : List α) (h : Inv cfg s) :
    Out.same (pushS cfg g s row) (push cfg g s row) := by
  unfold pushS push
  by_cases hfull : s.len ≥ s.capacity
  · rw [if_pos hfull, if_pos hfull, gen_steps_grow cfg s (g s.capacity) h.lenCap, grow_eq]
    by_cases hroom : s.capacity ≥ cfg.maxCap
    · rw [if_pos hroom]; exact ⟨rfl, rfl⟩
    · rw [if_neg hroom]
      -- growing touches neither `len` nor the dense arrays
      exact gen_steps_force_create cfg (s.grown (g s.capacity)) row h.denseOk
  · rw [if_neg hfull, if_neg hfull]
    exact gen_steps_force_create cfg s row h.denseOk

theorem gen_steps_push_within (cfg : Cfg) (s : Storage α) (row : List α) (h : Inv cfg s) :
    Out.same (pushWithinS cfg s row) (pushWithin cfg s row) := by
  unfold pushWithinS pushWithin
  by_cases hfull : s.len ≥ s.capacity
  · rw [if_pos hfull, if_pos hfull]; exact ⟨rfl, rfl⟩
  · rw [if_neg hfull, if_neg hfull]
    rcases Out.same_cases (gen_steps_force_create cfg s row h.denseOk) with he | ⟨m, n, h1, h2⟩
    · rw [he]; exact Out.same_refl _
    · rw [h1, h2]; trivial

theorem gen_steps_destroy_ent (cfg : Cfg) (s : Storage α) (e : Ent) (h : Inv cfg s) :
    Out.same (destroyEntS cfg s e) (destroyEnt cfg s e) := by
  unfold destroyEntS destroyEnt
  rcases resolveEntity_spec cfg s e h with h1 | ⟨d, h1, hd⟩ | ⟨msg, h1, _⟩ <;> rw [h1]
  · exact ⟨rfl, rfl⟩
  · dsimp only
    rcases Out.same_cases (gen_steps_force_destroy cfg s e.slot d h.denseOk (h.ents_lt hd)) with
      he | ⟨m, n, h1, h2⟩
    · rw [he]; exact Out.same_refl _
    · rw [h1, h2]; trivial
  · exact ⟨rfl, rfl⟩

theorem gen_steps_destroy_direct (cfg : Cfg) (s : Storage α) (d v : Nat) (h : Inv cfg s) :
    Out.same (destroyDirectS cfg s d v) (destroyDirect cfg s d v) := by
  unfold destroyDirectS destroyDirect
  rcases resolveDirect_spec cfg s d v h with h1 | ⟨e, h1, _, hd⟩ | ⟨msg, h1, _⟩ <;> rw [h1]
  · exact ⟨rfl, rfl⟩
  · dsimp only
    rcases Out.same_cases (gen_steps_force_destroy cfg s e.slot d h.denseOk (h.ents_lt hd)) with
      he | ⟨m, n, h1, h2⟩
    · rw [he]; exact Out.same_refl _
    · rw [h1, h2]; trivial
  · exact ⟨rfl, rfl⟩

/-- One atomic change of a storage, with every structural primitive run from the statement
lists extracted from the current source (compare `SStep`, Lemmas/Reach.lean). -/
inductive SStepS (cfg : Cfg) : Storage α → Storage α → Prop where
  | write (s : Storage α) (d c : Nat) (x : α) : SStepS cfg s (writeCell s d c x)
  | push (s s' : Storage α) (g : Nat → Nat) (row : List α) (e : Ent)
      (hg : s.capacity < cfg.maxCap → s.capacity < g s.capacity ∧ g s.capacity ≤ cfg.maxCap)
      (h : pushS cfg g s row = .ok e s') : SStepS cfg s s'
  | pushWithin (s s' : Storage α) (row : List α) (e : Ent)
      (h : pushWithinS cfg s row = .ok (some e) s') : SStepS cfg s s'
  | destroyEnt (s s' : Storage α) (e : Ent) (row : List α)
      (h : destroyEntS cfg s e = .ok (some row) s') : SStepS cfg s s'
  | destroyDirect (s s' : Storage α) (d v : Nat) (row : List α)
      (h : destroyDirectS cfg s d v = .ok (some row) s') : SStepS cfg s s'
  | clear (s : Storage α) : SStepS cfg s (clearEvents s)
  | clone (s : Storage α) (cl : α → α) : SStepS cfg s { s with cols := s.cols.map (·.map cl) }

theorem SStepS.toSStep {cfg : Cfg} {s s' : Storage α} (h : Inv cfg s) (st : SStepS cfg s s') :
    SStep cfg s s' := by
  match st with
  | .write _ d c x => exact .write s d c x
  | .push _ _ g row e hg hp => exact .push s s' g row e hg (Out.same_ok (gen_steps_push cfg g s row h) hp)
  | .pushWithin _ _ row e hp => exact .pushWithin s s' row e (Out.same_ok (gen_steps_push_within cfg s row h) hp)
  | .destroyEnt _ _ e row hp => exact .destroyEnt s s' e row (Out.same_ok (gen_steps_destroy_ent cfg s e h) hp)
  | .destroyDirect _ _ d v row hp =>
    exact .destroyDirect s s' d v row (Out.same_ok (gen_steps_destroy_direct cfg s d v h) hp)
  | .clear _ => exact .clear s
  | .clone _ cl => exact .clone s cl

/-- Histories of extracted-statement steps. -/
inductive SReachS (cfg : Cfg) : Storage α → Storage α → Prop where
  | refl (s : Storage α) : SReachS cfg s s
  | step {s s' s'' : Storage α} : SReachS cfg s s' → Inv cfg s' → SStepS cfg s' s'' → SReachS cfg s s''

/-- Every history of extracted-statement steps is a history of model steps: whatever
`Props/` proves along `SReach` (C01, C08, C09, C12, C17) holds along the statements of the
current source. -/
theorem SReachS.toSReach {cfg : Cfg} {s s' : Storage α} (r : SReachS cfg s s') : SReach cfg s s' := by
  induction r with
  | refl => exact .refl _
  | step _ hinv st ih => exact .step ih hinv (st.toSStep hinv)

/-- C10 carried over to the extracted statements: a panic out of a removal (either key kind) or a
creation is the same panic, with the same state, of the model's operation (whose panics leave the
storage as it was: `destroyEnt_spec`, `destroyDirect_spec`, Props/C10.lean). -/
theorem gen_steps_panic_atomic (cfg : Cfg) (g : Nat → Nat) (s s' : Storage α) (h : Inv cfg s) (m : String) :
    (∀ e, destroyEntS cfg s e = .panic m s' → destroyEnt cfg s e = .panic m s')
    ∧ (∀ d v, destroyDirectS cfg s d v = .panic m s' → destroyDirect cfg s d v = .panic m s')
    ∧ (∀ row, pushS cfg g s row = .panic m s' → push cfg g s row = .panic m s') :=
  ⟨fun e hp => Out.same_panic (gen_steps_destroy_ent cfg s e h) hp,
   fun d v hp => Out.same_panic (gen_steps_destroy_direct cfg s d v h) hp,
   fun row hp => Out.same_panic (gen_steps_push cfg g s row h) hp⟩

/-- The extracted statements never reach an unchecked access outside its contract. -/
theorem gen_steps_not_ub (cfg : Cfg) (s : Storage α) (h : Inv cfg s) (e : Ent) (d v : Nat) :
    (∀ m, destroyEntS cfg s e ≠ .ub m) ∧ (∀ m, destroyDirectS cfg s d v ≠ .ub m) :=
  ⟨Out.same_not_ub (gen_steps_destroy_ent cfg s e h) (destroyEnt_not_ub cfg s e h),
   Out.same_not_ub (gen_steps_destroy_direct cfg s d v h) (destroyDirect_not_ub cfg s d v h)⟩

end Gecs
