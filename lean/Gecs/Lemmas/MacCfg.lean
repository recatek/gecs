/-
The `#[cfg]` predicate plumbing shared by C15 and both halves of C16, proved once:
`dedupAppend` (the collector step), folds of it, the lookup rebuilt from the macro chain, and
`evaluateCfgs` in terms of the lookup.
-/
import Gecs.Model.Macro

namespace Gecs.Mac

@[simp] theorem dedupAppend_nil (acc : List String) : dedupAppend acc [] = acc := rfl

theorem dedupAppend_cons (acc : List String) (p : String) (ps : List String) :
    dedupAppend acc (p :: ps) = dedupAppend (if acc.contains p then acc else acc ++ [p]) ps := rfl

theorem dedupAppend_cons_mem {acc : List String} {p : String} (ps : List String) (h : p ∈ acc) :
    dedupAppend acc (p :: ps) = dedupAppend acc ps := by
  rw [dedupAppend_cons, if_pos (List.contains_iff_mem.mpr h)]

theorem dedupAppend_cons_not_mem {acc : List String} {p : String} (ps : List String) (h : p ∉ acc) :
    dedupAppend acc (p :: ps) = dedupAppend (acc ++ [p]) ps := by
  rw [dedupAppend_cons, if_neg (by rwa [List.contains_iff_mem])]

theorem dedupAppend_append (acc xs ys : List String) :
    dedupAppend acc (xs ++ ys) = dedupAppend (dedupAppend acc xs) ys := by
  simp [dedupAppend, List.foldl_append]

theorem dedupAppend_spec (acc ps : List String) :
    dedupAppend acc ps = acc ++ (ps.filter (fun p => !acc.contains p)).eraseDups := by
  induction ps generalizing acc with
  | nil => simp
  | cons p ps ih =>
    by_cases h : p ∈ acc
    · rw [dedupAppend_cons_mem ps h, ih]
      simp [h]
    · rw [dedupAppend_cons_not_mem ps h, ih]
      have hc : acc.contains p = false := by
        rw [← Bool.not_eq_true, List.contains_iff_mem]; exact h
      simp only [List.filter_cons, hc, Bool.not_false, if_true, List.eraseDups_cons,
        List.filter_filter, List.append_assoc, List.singleton_append]
      congr 3
      apply List.filter_congr
      intro q _
      simp only [List.contains_append, List.contains_cons, List.contains_nil, Bool.or_false,
        Bool.not_or]
      exact Bool.and_comm _ _

theorem mem_dedupAppend {acc ps : List String} {p : String} :
    p ∈ dedupAppend acc ps ↔ p ∈ acc ∨ p ∈ ps := by
  rw [dedupAppend_spec]
  by_cases hp : p ∈ acc <;> simp [hp]

theorem dedupAppend_nodup {acc : List String} (ps : List String) (h : acc.Nodup) :
    (dedupAppend acc ps).Nodup := by
  induction ps generalizing acc with
  | nil => simpa
  | cons p ps ih =>
    by_cases hp : p ∈ acc
    · rw [dedupAppend_cons_mem ps hp]; exact ih h
    · rw [dedupAppend_cons_not_mem ps hp]
      apply ih
      simp only [List.nodup_append, h, List.mem_singleton, true_and, List.nodup_cons,
        List.not_mem_nil, not_false_eq_true, List.nodup_nil, and_self]
      rintro a ha b rfl rfl; exact hp ha

theorem filter_const_true (xs : List String) : xs.filter (fun _ => true) = xs :=
  List.filter_eq_self.mpr (by simp)

-- not in core
theorem eraseDups_nodup (xs : List String) : xs.eraseDups.Nodup := by
  have := dedupAppend_nodup (acc := []) xs (by simp)
  rw [dedupAppend_spec] at this
  simpa [filter_const_true] using this

/-- Collecting the predicates of a list of items (components, archetypes, query parameters) is
one `dedupAppend` of all their predicates. -/
theorem foldl_dedupAppend {α : Type} (g : α → List String) (acc : List String) (xs : List α) :
    xs.foldl (fun acc x => dedupAppend acc (g x)) acc = dedupAppend acc (xs.flatMap g) := by
  induction xs generalizing acc with
  | nil => simp
  | cons x xs ih => simp only [List.foldl_cons, List.flatMap_cons, dedupAppend_append, ih]

theorem mkLookup_chain (ρ : String → Bool) (preds : List String) :
    mkLookup preds (chain ρ preds) = preds.map (fun p => (p, ρ p)) := by
  simp [mkLookup, chain, List.zip_eq_zipWith, List.zipWith_map_right, List.zipWith_self]

theorem find?_graph (ρ : String → Bool) (xs : List String) (p : String) :
    (xs.map (fun q => (q, ρ q))).find? (fun kv => kv.1 == p) =
      if p ∈ xs then some (p, ρ p) else none := by
  induction xs with
  | nil => simp
  | cons q xs ih =>
    by_cases hq : q = p
    · simp [hq]
    · simp [hq, ih, Ne.symm hq]

theorem lookupCfg_mkLookup (ρ : String → Bool) (preds : List String) (p : String) :
    lookupCfg (mkLookup preds (chain ρ preds)) p = if p ∈ preds then some (ρ p) else none := by
  unfold lookupCfg
  rw [mkLookup_chain, ← List.map_reverse, find?_graph]
  by_cases h : p ∈ preds <;> simp [h]

theorem evaluateCfgs_nil (l : CfgLookup) : evaluateCfgs l [] = some true := rfl

theorem evaluateCfgs_cons (l : CfgLookup) (p : String) (ps : List String) :
    evaluateCfgs l (p :: ps) =
      (lookupCfg l p).bind (fun b => if b then evaluateCfgs l ps else some false) := by
  simp only [evaluateCfgs]
  cases lookupCfg l p with
  | none => rfl
  | some b => cases b <;> rfl

theorem evaluateCfgs_of_present {l : CfgLookup} {cfgs : List String} {ρ : String → Bool}
    (h : ∀ p ∈ cfgs, lookupCfg l p = some (ρ p)) : evaluateCfgs l cfgs = some (cfgs.all ρ) := by
  induction cfgs with
  | nil => rfl
  | cons p ps ih =>
    rw [evaluateCfgs_cons, h p (by simp), ih (fun q hq => h q (List.mem_cons_of_mem _ hq))]
    cases hp : ρ p <;> simp [hp]

/-- `evaluateCfgs` panics (`none`) exactly when the first predicate that is not `true` in the
lookup is absent from it: present predicates after a `false` one are never looked up. -/
theorem evaluateCfgs_eq_none_iff {l : CfgLookup} {cfgs : List String} :
    evaluateCfgs l cfgs = none ↔
      ∃ i p, cfgs[i]? = some p ∧ lookupCfg l p = none ∧
        ∀ q ∈ cfgs.take i, lookupCfg l q = some true := by
  induction cfgs with
  | nil => simp [evaluateCfgs]
  | cons p ps ih =>
    -- position `0` is `p` itself; position `i + 1` is position `i` of `ps`, reached iff `p` is true
    rw [evaluateCfgs_cons, ← Nat.or_exists_add_one]
    simp only [List.getElem?_cons_zero, List.getElem?_cons_succ, List.take_zero,
      List.take_succ_cons, List.forall_mem_cons, List.not_mem_nil, false_imp_iff, implies_true,
      and_true, Option.some.injEq, exists_eq_left']
    cases hp : lookupCfg l p with
    | none => simp only [Option.bind_none, true_or]
    | some b =>
      cases b
      · simp only [Option.bind_some, Bool.false_eq_true, if_false, reduceCtorEq, false_and,
          and_false, exists_false, or_false, Option.some.injEq]
      · simp only [Option.bind_some, if_true, ih, reduceCtorEq, true_and, false_or]

theorem evaluateCfgs_ne_none_of_present {l : CfgLookup} {cfgs : List String}
    (h : ∀ p ∈ cfgs, lookupCfg l p ≠ none) : evaluateCfgs l cfgs ≠ none := by
  intro hn
  obtain ⟨i, p, h1, h2, _⟩ := evaluateCfgs_eq_none_iff.mp hn
  exact h p (List.mem_of_getElem? h1) h2

/-- **The pipeline fact**: with the lookup rebuilt from the macro chain over `preds`, a cfg list
whose predicates were all collected evaluates to its conjunction under `ρ`. -/
theorem evaluateCfgs_pipeline (ρ : String → Bool) {cfgs preds : List String}
    (hsub : ∀ p ∈ cfgs, p ∈ preds) :
    evaluateCfgs (mkLookup preds (chain ρ preds)) cfgs = some (cfgs.all ρ) :=
  evaluateCfgs_of_present fun p hp => by rw [lookupCfg_mkLookup, if_pos (hsub p hp)]

end Gecs.Mac
