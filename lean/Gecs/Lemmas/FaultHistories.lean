/-
Helper lemmas for histories with fault points (`Gecs/Model/FaultHistory.lean`): the algebra of
`OpF.erase` / `OpF.faultCount` / `runF`, `runF` under the world invariant, the clone order and the
drop order of a world against `owned`, what one faulted clone and the faulting world drop do to
the values, and the list plumbing for the whole-world balance.
The headline theorems are in `Gecs/Props/FaultHistories.lean`.
-/
import Gecs.Model.FaultHistory
import Gecs.Lemmas.Faults
import Gecs.Lemmas.StepRun
import Gecs.Lemmas.Ownership

namespace Gecs
variable {α : Type}

theorem OpF.erase_append (ops₁ ops₂ : List (OpF α)) :
    OpF.erase (ops₁ ++ ops₂) = OpF.erase ops₁ ++ OpF.erase ops₂ := by
  fun_induction OpF.erase ops₁ <;> simp only [List.cons_append, List.nil_append, OpF.erase, *]

theorem OpF.faultCount_append (ops₁ ops₂ : List (OpF α)) :
    OpF.faultCount (ops₁ ++ ops₂) = OpF.faultCount ops₁ + OpF.faultCount ops₂ := by
  fun_induction OpF.faultCount ops₁ <;>
    simp only [List.cons_append, List.nil_append, OpF.faultCount, Nat.zero_add,
      Nat.add_right_comm, *]

theorem OpF.erase_map_plain (ops : List (Op α)) : OpF.erase (ops.map OpF.plain) = ops := by
  induction ops with
  | nil => rfl
  | cons op ops ih => simp only [List.map_cons, OpF.erase, ih]

theorem OpF.faultCount_map_plain (ops : List (Op α)) : OpF.faultCount (ops.map OpF.plain) = 0 := by
  induction ops with
  | nil => rfl
  | cons op ops ih => simp only [List.map_cons, OpF.faultCount, ih]

/-- The log computed along the way: the outcome of every `cloneFaulted`, evaluated on the world
the history has reached at that point (empty from the point where `ub` is reached). -/
def faultLog (cfg : Cfg) (isZ : α → Bool) : World α → List (OpF α) → List (FaultOutcome α)
  | _, [] => []
  | w, .plain op :: ops =>
    match stepOp cfg w op with
    | .ok w' => faultLog cfg isZ w' ops
    | .panic _ w' => faultLog cfg isZ w' ops
    | .ub _ => []
  | w, .cloneFaulted cl k :: ops => cloneFaultOutcome isZ w cl k :: faultLog cfg isZ w ops

theorem runF_eq_run (cfg : Cfg) (isZ : α → Bool) (w : World α) (ops : List (OpF α)) :
    runF cfg isZ w ops
      = (run cfg w (OpF.erase ops)).map (fun w' => (w', faultLog cfg isZ w ops)) := by
  induction ops generalizing w with
  | nil => rfl
  | cons op ops ih =>
    cases op with
    | plain op =>
      simp only [runF, OpF.erase, run, faultLog]
      cases stepOp cfg w op with
      | ok w' => exact ih w'
      | panic m w' => exact ih w'
      | ub m => rfl
    | cloneFaulted cl k =>
      simp only [runF, OpF.erase, faultLog, ih w, Option.map_map]
      rfl

theorem runF_fst (cfg : Cfg) (isZ : α → Bool) (w : World α) (ops : List (OpF α)) :
    (runF cfg isZ w ops).map Prod.fst = run cfg w (OpF.erase ops) := by
  rw [runF_eq_run, Option.map_map]
  cases run cfg w (OpF.erase ops) <;> rfl

theorem runF_plain_cons (cfg : Cfg) (isZ : α → Bool) (w : World α) (op : Op α)
    (ops : List (OpF α)) :
    runF cfg isZ w (.plain op :: ops) = (run cfg w [op]).bind (fun w₁ => runF cfg isZ w₁ ops) := by
  simp only [runF, run]
  cases stepOp cfg w op <;> rfl

theorem runF_some_induction {cfg : Cfg} {isZ : α → Bool}
    {motive : World α → List (OpF α) → World α → List (FaultOutcome α) → Prop}
    (nil : ∀ w, motive w [] w [])
    (plain : ∀ w op ops w₁ w' log, run cfg w [op] = some w₁ →
      runF cfg isZ w₁ ops = some (w', log) → motive w₁ ops w' log →
      motive w (.plain op :: ops) w' log)
    (fault : ∀ w cl k ops w' log, runF cfg isZ w ops = some (w', log) → motive w ops w' log →
      motive w (.cloneFaulted cl k :: ops) w' (cloneFaultOutcome isZ w cl k :: log))
    {w : World α} {ops : List (OpF α)} {w' : World α} {log : List (FaultOutcome α)}
    (h : runF cfg isZ w ops = some (w', log)) : motive w ops w' log := by
  induction ops generalizing w w' log with
  | nil => cases h; exact nil w
  | cons op ops ih =>
    cases op with
    | plain op =>
      rw [runF_plain_cons] at h
      cases h₁ : run cfg w [op] with
      | none => rw [h₁] at h; cases h
      | some w₁ => rw [h₁] at h; exact plain w op ops w₁ w' log h₁ h (ih h)
    | cloneFaulted cl k =>
      simp only [runF, Option.map_eq_some_iff, Prod.mk.injEq] at h
      obtain ⟨⟨w'', log'⟩, hr, rfl, rfl⟩ := h
      exact fault w cl k ops w'' log' hr (ih hr)

theorem runF_log_length {cfg : Cfg} {isZ : α → Bool} {ops : List (OpF α)} {w w' : World α}
    {log : List (FaultOutcome α)} (h : runF cfg isZ w ops = some (w', log)) :
    log.length = OpF.faultCount ops :=
  runF_some_induction (motive := fun _ ops _ log => log.length = OpF.faultCount ops)
    (fun _ => rfl) (fun _ _ _ _ _ _ _ _ ih => ih) (fun _ _ _ _ _ _ _ ih => congrArg (· + 1) ih) h

theorem runF_append (cfg : Cfg) (isZ : α → Bool) (w : World α) (ops₁ ops₂ : List (OpF α)) :
    runF cfg isZ w (ops₁ ++ ops₂)
      = (runF cfg isZ w ops₁).bind (fun r₁ =>
          (runF cfg isZ r₁.1 ops₂).map (fun r₂ => (r₂.1, r₁.2 ++ r₂.2))) := by
  induction ops₁ generalizing w with
  | nil =>
    simp only [List.nil_append, runF, Option.bind_some]
    cases runF cfg isZ w ops₂ <;> rfl
  | cons op ops ih =>
    cases op with
    | plain op =>
      rw [List.cons_append, runF_plain_cons, runF_plain_cons]
      cases run cfg w [op] with
      | none => rfl
      | some w₁ => exact ih w₁
    | cloneFaulted cl k =>
      simp only [List.cons_append, runF, ih w]
      cases runF cfg isZ w ops with
      | none => rfl
      | some r₁ =>
        simp only [Option.bind_some, Option.map_some]
        cases runF cfg isZ r₁.1 ops₂ <;> rfl

theorem runF_cloneFaulted_single (cfg : Cfg) (isZ : α → Bool) (w : World α) (cl : α → α)
    (k : Nat) : runF cfg isZ w [.cloneFaulted cl k] = some (w, [cloneFaultOutcome isZ w cl k]) :=
  rfl

/-- Every history with fault points whose plain operations satisfy the hypotheses of `run_inv`
runs (never `ub`): the world reached is the one `run` reaches on the erased history, it is
`WRel`-related to the initial one, the log has one entry per `cloneFaulted`, and every archetype
moves along a label path emitted by the plain operations (`run_emits`). -/
theorem runF_ok {cfg : Cfg} (isZ : α → Bool) (hc : CfgOk cfg) {ops : List (OpF α)} {w : World α}
    (hw : WInv cfg w) (ho : OpsOk cfg (OpF.erase ops)) (hs : OpsScoped w.sch (OpF.erase ops)) :
    ∃ w' log, runF cfg isZ w ops = some (w', log) ∧ run cfg w (OpF.erase ops) = some w'
      ∧ WRel cfg w w' ∧ log.length = OpF.faultCount ops
      ∧ ∀ (a : Nat) (s s' : Storage α), w.archs[a]? = some s → w'.archs[a]? = some s' →
          ∃ L, LReach cfg s L s' ∧ OpsEmit a (OpF.erase ops) L := by
  obtain ⟨w', h1, h2, h4⟩ := run_emits hc (OpF.erase ops) w hw ho hs
  have h3 : runF cfg isZ w ops = some (w', faultLog cfg isZ w ops) := by
    rw [runF_eq_run, h1]; rfl
  exact ⟨w', _, h3, h1, h2, runF_log_length h3, h4⟩

theorem runF_prefix {cfg : Cfg} (isZ : α → Bool) (hc : CfgOk cfg) {ops₁ ops₂ : List (OpF α)}
    {w : World α} (hw : WInv cfg w) (ho : OpsOk cfg (OpF.erase (ops₁ ++ ops₂)))
    (hs : OpsScoped w.sch (OpF.erase (ops₁ ++ ops₂))) :
    ∃ w₁ log₁ w₂ log₂, runF cfg isZ w ops₁ = some (w₁, log₁)
      ∧ runF cfg isZ w₁ ops₂ = some (w₂, log₂)
      ∧ runF cfg isZ w (ops₁ ++ ops₂) = some (w₂, log₁ ++ log₂)
      ∧ WRel cfg w w₁ ∧ WRel cfg w₁ w₂ ∧ log₁.length = OpF.faultCount ops₁ := by
  rw [OpF.erase_append] at ho hs
  obtain ⟨ho1, ho2⟩ := OpsOk_append.mp ho
  obtain ⟨hs1, hs2⟩ := OpsScoped_append.mp hs
  obtain ⟨w₁, log₁, h1, _, r1, l1, _⟩ := runF_ok isZ hc hw ho1 hs1
  obtain ⟨w₂, log₂, h2, _, r2, _⟩ := runF_ok isZ hc r1.winv ho2 (r1.sch_eq ▸ hs2)
  refine ⟨w₁, log₁, w₂, log₂, h1, h2, ?_, r1, r2, l1⟩
  rw [runF_append, h1]
  simp only [Option.bind_some, h2, Option.map_some]

theorem flatMap_perm_pointwise {β : Type} (l : List β) (f g : β → List α)
    (h : ∀ x ∈ l, (f x).Perm (g x)) : (l.flatMap f).Perm (l.flatMap g) := by
  induction l with
  | nil => simp
  | cons a l ih =>
    simp only [List.flatMap_cons]
    exact (h a List.mem_cons_self).append (ih (fun x hx => h x (List.mem_cons_of_mem _ hx)))

theorem World.dropPerArch_eq_owned {cfg : Cfg} {w : World α} (hw : WInv cfg w) :
    w.dropPerArch = w.archs.map owned :=
  List.map_congr_left fun s hs => flatMap_take_eq s.cols s.len (hw.inv s hs).colsLen

theorem World.dropPerArch_flatten_owned {cfg : Cfg} {w : World α} (hw : WInv cfg w) :
    w.dropPerArch.flatten = w.archs.flatMap owned := by
  rw [World.dropPerArch_eq_owned hw, List.flatMap_def]

/-- Under the invariant the clone order of every archetype is a permutation of its `owned`
values (entity-major instead of column-major): `world.clone()` visits exactly the owned values,
each once. -/
theorem World.clonePerArch_get {cfg : Cfg} {w : World α} (hw : WInv cfg w) {a : Nat}
    {s : Storage α} (g : w.archs[a]? = some s) :
    ∃ c, w.clonePerArch[a]? = some c ∧ c.Perm (owned s) := by
  refine ⟨(List.range s.len).flatMap (fun i => s.cols.filterMap (fun c => c[i]?)), ?_, ?_⟩
  · simp only [World.clonePerArch, List.getElem?_map, g, Option.map_some]
  · exact transpose_perm s.cols s.len (hw.get g).colsLen

theorem World.clonePerArch_flatten_perm {cfg : Cfg} {w : World α} (hw : WInv cfg w) :
    w.clonePerArch.flatten.Perm (w.archs.flatMap owned) := by
  rw [World.clonePerArch_flatten]
  exact flatMap_perm_pointwise _ _ _
    (fun s hs => transpose_perm s.cols s.len (hw.inv s hs).colsLen)

theorem World.drop_go_owned {cfg : Cfg} (l : List (Storage α)) (acc : List α)
    (hl : ∀ s ∈ l, Inv cfg s) : World.drop.go l acc = .ok (acc ++ l.flatMap owned) () := by
  induction l generalizing acc with
  | nil => simp [World.drop.go]
  | cons s l ih =>
    simp only [World.drop.go, drop_returns_owned (hl s List.mem_cons_self)]
    rw [ih _ (fun s' hs' => hl s' (List.mem_cons_of_mem _ hs'))]
    simp

/-- Dropping a world that satisfies the invariant never reaches `ub` and drops exactly the owned
values, archetype by archetype in declaration order, each archetype column-major. -/
theorem World.drop_spec {cfg : Cfg} {w : World α} (hw : WInv cfg w) :
    w.drop = .ok (w.archs.flatMap owned) () := by
  simp [World.drop, World.drop_go_owned (cfg := cfg) w.archs [] hw.inv]

/-- No-fault case: every value of the world is cloned, all clones are dropped. -/
theorem cloneFaultOutcome_none (isZ : α → Bool) (w : World α) (cl : α → α) (k : Nat)
    (h : cloneFault isZ w.clonePerArch k = none) :
    cloneFaultOutcome isZ w cl k = ⟨w.clonePerArch.flatten.map cl, []⟩ := by
  simp only [cloneFaultOutcome, h]

/-- What a `cloneFaulted cl k` on `w` made, by cases on whether the fault is reached.
`n` is the number of values cloned before the fault (all of them when nothing faults). -/
theorem cloneFaultOutcome_made (isZ : α → Bool) (w : World α) (cl : α → α) (k : Nat) :
    ∃ n, n ≤ w.clonePerArch.flatten.length
      ∧ (cloneFaultOutcome isZ w cl k).dropped ++ (cloneFaultOutcome isZ w cl k).leaked
          = (w.clonePerArch.flatten.take n).map cl
      ∧ ((cloneFault isZ w.clonePerArch k).isSome
          ↔ ∃ v, w.clonePerArch.flatten[n]? = some v ∧ isZ v = false)
      ∧ ((cloneFault isZ w.clonePerArch k).isSome
          → nzCount isZ (w.clonePerArch.flatten.take n) = k)
      ∧ (cloneFault isZ w.clonePerArch k = none
          → n = w.clonePerArch.flatten.length ∧ (cloneFaultOutcome isZ w cl k).leaked = []
            ∧ (cloneFaultOutcome isZ w cl k).dropped = w.clonePerArch.flatten.map cl
            ∧ nzCount isZ w.clonePerArch.flatten ≤ k) := by
  rcases fault_spec isZ w.clonePerArch k with
    ⟨hle, hc, -⟩ | ⟨pre, p, v, s, post, hP, hv, rfl, hc, -⟩
  · rw [cloneFaultOutcome_none isZ w cl k hc]
    refine ⟨w.clonePerArch.flatten.length, Nat.le_refl _, ?_, ?_, ?_, fun _ => ⟨rfl, rfl, rfl, hle⟩⟩
    · rw [List.take_length, List.append_nil]
    · simp [hc]
    · rw [hc]; intro hn; cases hn
  · have hflat : w.clonePerArch.flatten = (pre.flatten ++ p) ++ v :: (s ++ post.flatten) := by
      rw [hP]; simp
    refine ⟨(pre.flatten ++ p).length, ?_, ?_, ?_, ?_, ?_⟩
    · rw [hflat]; exact (List.sublist_append_left _ _).length_le
    · simp only [cloneFaultOutcome, hc, hflat, List.take_left, List.map_append]
    · rw [hc, hflat, List.getElem?_append_right (Nat.le_refl _)]; simp [hv]
    · intro _; rw [hflat, List.take_left, nzCount_append]
    · rw [hc]; intro hn; cases hn

theorem endOfLife_perm (isZ : α → Bool) (w : World α) (k : Nat) :
    ((endOfLife isZ w k).dropped ++ (endOfLife isZ w k).leaked).Perm w.dropPerArch.flatten := by
  unfold endOfLife
  cases h : dropFault isZ w.dropPerArch k with
  | some o => exact dropFault_partition isZ _ k o h
  | none => simp

theorem endOfLife_none (isZ : α → Bool) (w : World α) (k : Nat)
    (h : dropFault isZ w.dropPerArch k = none) :
    endOfLife isZ w k = ⟨w.dropPerArch.flatten, []⟩ := by
  simp only [endOfLife, h]

theorem endOfLife_some (isZ : α → Bool) (w : World α) (k : Nat) (o : FaultOutcome α)
    (h : dropFault isZ w.dropPerArch k = some o) : endOfLife isZ w k = o := by
  simp only [endOfLife, h]

/-- End of life of a world satisfying the invariant, for every fault position `k`. -/
theorem endOfLife_spec {cfg : Cfg} (isZ : α → Bool) {w : World α} (hw : WInv cfg w) (k : Nat) :
    -- dropped and leaked partition the owned values
    ((endOfLife isZ w k).dropped ++ (endOfLife isZ w k).leaked).Perm (w.archs.flatMap owned)
    -- no double drop, nothing dropped is leaked
    ∧ ((w.archs.flatMap owned).Nodup →
        (endOfLife isZ w k).dropped.Nodup ∧ (endOfLife isZ w k).leaked.Nodup
        ∧ ∀ x ∈ (endOfLife isZ w k).dropped, x ∉ (endOfLife isZ w k).leaked)
    -- a fault happens iff `k` is smaller than the number of non-zero-sized owned values
    ∧ ((dropFault isZ w.dropPerArch k).isSome ↔ k < nzCount isZ (w.archs.flatMap owned))
    -- no fault: the model's `World.drop`, everything dropped in drop order, nothing leaked
    ∧ w.drop = .ok (w.archs.flatMap owned) ()
    ∧ (dropFault isZ w.dropPerArch k = none →
        endOfLife isZ w k = ⟨w.archs.flatMap owned, []⟩)
    -- fault: the leak is a suffix of the owned values of exactly ONE archetype, right after the
    -- non-zero-sized value `v` whose `Drop::drop` panicked; all the rest is dropped
    ∧ (∀ o, dropFault isZ w.dropPerArch k = some o → endOfLife isZ w k = o
        ∧ ∃ a s p v, w.archs[a]? = some s ∧ owned s = p ++ v :: o.leaked ∧ isZ v = false
          ∧ o.dropped = (w.archs.take a).flatMap owned ++ (p ++ [v])
              ++ (w.archs.drop (a + 1)).flatMap owned) := by
  have hflat := World.dropPerArch_flatten_owned hw
  have hp := endOfLife_perm isZ w k
  rw [hflat] at hp
  refine ⟨hp, nodup_of_perm_append hp, ?_, World.drop_spec hw, ?_, ?_⟩
  · rw [dropFault_some_iff, hflat]; rfl
  · intro hn; rw [endOfLife_none isZ w k hn, hflat]
  · intro o ho
    refine ⟨endOfLife_some isZ w k o ho, ?_⟩
    obtain ⟨n, a, pre, h1, h2, _, _, ⟨p, v, h5, h6⟩, h7⟩ :=
      dropFault_leak_one_archetype isZ _ k o ho
    rw [World.dropPerArch_eq_owned hw] at h1 h7
    rw [List.getElem?_map, Option.map_eq_some_iff] at h1
    obtain ⟨s, g, rfl⟩ := h1
    refine ⟨n, s, p, v, g, ?_, h6, ?_⟩
    · rw [h2, h5]; simp
    · rw [h7, h5, ← List.map_take, ← List.map_drop, ← List.flatMap_def, ← List.flatMap_def]

/-- `Clone for World` followed by dropping the clone, on a world satisfying the invariant: the
clone is made (no panic, no `ub`), satisfies the invariant, and dropping it drops exactly the
clones of the owned values (in drop order), never reaching `ub`. -/
theorem World.clone_then_drop {cfg : Cfg} {w : World α} (hw : WInv cfg w) (cl : α → α) :
    ∃ wc, w.clone cl = .ok wc () ∧ WInv cfg wc
      ∧ wc.drop = .ok ((w.archs.flatMap owned).map cl) () := by
  have hrel := World.clone_rel hw cl
  refine ⟨_, World.clone_spec hw cl, hrel.winv, ?_⟩
  rw [World.drop_spec hrel.winv]
  congr 1
  rw [List.flatMap_map, List.map_flatMap]
  congr 1
  funext s
  exact clone_owned (cfg := cfg) (.clone s cl)

/-- From "for every index `a` there is a witness `z` with `R a x y z` and a balance
`f y ++ D z ~ f x ++ C z`" to a list of witnesses whose balances add up (induction on the lists:
no choice axiom). -/
theorem exists_balanced_list {β γ : Type} (f : β → List α) (D C : γ → List α)
    (xs ys : List β) (R : Nat → β → β → γ → Prop) (hl : xs.length = ys.length)
    (h : ∀ (a : Nat) x y, xs[a]? = some x → ys[a]? = some y →
      ∃ z, R a x y z ∧ (f y ++ D z).Perm (f x ++ C z)) :
    ∃ zs : List γ, zs.length = ys.length
      ∧ (∀ (a : Nat) x y, xs[a]? = some x → ys[a]? = some y → ∃ z, zs[a]? = some z ∧ R a x y z)
      ∧ (ys.flatMap f ++ zs.flatMap D).Perm (xs.flatMap f ++ zs.flatMap C) := by
  induction xs generalizing ys R with
  | nil =>
    cases ys with
    | nil => exact ⟨[], rfl, fun a x y hx => (by cases hx), .refl _⟩
    | cons y ys => cases hl
  | cons x xs ih =>
    cases ys with
    | nil => cases hl
    | cons y ys =>
      obtain ⟨z0, r0, p0⟩ := h 0 x y rfl rfl
      obtain ⟨zs, hz, hR, hp⟩ := ih ys (fun a => R (a + 1)) (Nat.succ.inj hl)
        (fun a x' y' gx gy => h (a + 1) x' y' gx gy)
      refine ⟨z0 :: zs, congrArg (· + 1) hz, fun a x' y' gx gy => ?_, ?_⟩
      · cases a with
        | zero => cases gx; cases gy; exact ⟨z0, rfl, r0⟩
        | succ a => exact hR a x' y' gx gy
      · simp only [List.flatMap_cons]
        exact (perm_append_interchange _ _ _ _).trans
          ((p0.append hp).trans (perm_append_interchange _ _ _ _))

/-- The index form of a `flatMap`; where it is used (`Props/FaultHistories.lean`) `Ls` is the list
of label paths, one per archetype. -/
theorem flatMap_range_getD {β : Type} (Ls : List β) (d : β) (F : β → List α) :
    (List.range Ls.length).flatMap (fun a => F (Ls.getD a d)) = Ls.flatMap F := by
  induction Ls with
  | nil => rfl
  | cons L Ls ih =>
    rw [List.length_cons, List.range_succ_eq_map, List.flatMap_cons, List.flatMap_map]
    simp only [List.getD_cons_zero, List.flatMap_cons]
    congr 1

end Gecs

section
open Gecs
#print axioms OpF.erase_append
#print axioms runF_eq_run
#print axioms runF_fst
#print axioms runF_log_length
#print axioms runF_append
#print axioms runF_ok
#print axioms runF_prefix
#print axioms runF_some_induction
#print axioms World.dropPerArch_eq_owned
#print axioms World.clonePerArch_get
#print axioms World.clonePerArch_flatten_perm
#print axioms World.drop_spec
#print axioms cloneFaultOutcome_made
#print axioms endOfLife_perm
#print axioms endOfLife_spec
#print axioms World.clone_then_drop
#print axioms exists_balanced_list
#print axioms flatMap_range_getD
end
