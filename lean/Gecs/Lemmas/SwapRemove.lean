/-
Index, prefix and permutation lemmas for `swapRemove` (`DataPtr::swap_remove` on the
initialised prefix).
-/
import Gecs.Model.Storage

namespace Gecs

theorem swapRemove_length {β : Type} (l : List β) (i : Nat) :
    (swapRemove l i).length = l.length - 1 := by
  unfold swapRemove
  cases h : l.getLast? with
  | none => simp [List.getLast?_eq_none_iff] at h; simp [h]
  | some x => simp

theorem swapRemove_getElem? {β : Type} (l : List β) (i j : Nat) (hi : i < l.length) :
    (swapRemove l i)[j]? =
      if j < l.length - 1 then (if j = i then l[l.length - 1]? else l[j]?) else none := by
  unfold swapRemove
  cases h : l.getLast? with
  | none => rw [List.getLast?_eq_none_iff.mp h] at hi; cases hi
  | some x =>
    show ((l.set i x).dropLast)[j]? = _
    rw [List.getElem?_dropLast, List.length_set, ← List.getLast?_eq_getElem?, h]
    by_cases hj : j < l.length - 1
    · rw [if_pos hj, if_pos hj]
      by_cases hji : j = i
      · rw [if_pos hji, hji, List.getElem?_set_self hi]
      · rw [if_neg hji, List.getElem?_set_ne (Ne.symm hji)]
    · rw [if_neg hj, if_neg hj]

/-- Where the element at position `d` of `swapRemove l i` came from (`n = l.length`): the last
element has moved to position `i`, everything else has stayed. -/
def swapSrc (n i d : Nat) : Nat := if d = i then n - 1 else d

theorem swapRemove_getElem?_src {β : Type} (l : List β) (i d : Nat) (hi : i < l.length)
    (hd : d < l.length - 1) : (swapRemove l i)[d]? = l[swapSrc l.length i d]? := by
  rw [swapRemove_getElem? l i d hi, if_pos hd]
  exact (apply_ite (fun k => l[k]?) _ _ _).symm

theorem swapRemove_take {β : Type} (l : List β) (i : Nat) (hi : i < l.length) :
    (swapRemove l i).take i = l.take i := by
  unfold swapRemove
  cases l.getLast? with
  | none => rfl
  | some x =>
    -- `dropLast` keeps the first `l.length - 1 ≥ i` elements, `set i` those before `i`
    show ((l.set i x).dropLast).take i = l.take i
    rw [List.dropLast_eq_take, List.take_take, List.length_set,
      Nat.min_eq_left (Nat.le_sub_one_of_lt hi), List.take_set_of_le (Nat.le_refl i)]

theorem swapRemove_perm {β : Type} (l : List β) (i : Nat) (hi : i < l.length) :
    (swapRemove l i).Perm (l.eraseIdx i) := by
  unfold swapRemove
  cases h : l.getLast? with
  | none => simp [List.getLast?_eq_none_iff] at h; subst h; simp at hi
  | some x =>
    obtain ⟨init, rfl⟩ := List.getLast?_eq_some_iff.mp h
    by_cases hlast : i = init.length
    · subst hlast
      simp [List.eraseIdx_append_of_length_le]
    · have hi' : i < init.length := by simp at hi; omega
      show (((init ++ [x]).set i x).dropLast).Perm _
      rw [List.set_append_left _ _ hi', List.dropLast_concat]
      rw [List.eraseIdx_append_of_lt_length hi']
      have h1 : (init.set i x).Perm (x :: init.eraseIdx i) := by
        rw [List.set_eq_take_append_cons_drop, if_pos hi', List.eraseIdx_eq_take_drop_succ]
        exact List.perm_middle
      exact h1.trans (List.perm_append_singleton x _).symm

theorem swapRemove_append_perm {β : Type} (D : List β) (i : Nat) (x : β)
    (hx : D[i]? = some x) : (swapRemove D i ++ [x]).Perm D := by
  obtain ⟨hi, rfl⟩ := List.getElem?_eq_some_iff.mp hx
  refine ((swapRemove_perm D i hi).append_right _).trans ((List.perm_append_singleton _ _).trans ?_)
  -- `D[i] :: D.eraseIdx i` is `D` with `D[i]` moved to the front
  rw [List.eraseIdx_eq_take_drop_succ]
  refine List.perm_middle.symm.trans (.of_eq ?_)
  rw [List.getElem_cons_drop, List.take_append_drop]

theorem mem_swapRemove_of_nodup {β : Type} (l : List β) (i : Nat) (t : β) (hnd : l.Nodup)
    (ht : l[i]? = some t) (x : β) : x ∈ swapRemove l i ↔ (x ∈ l ∧ x ≠ t) := by
  have hp := swapRemove_append_perm l i t ht
  have hnt : t ∉ swapRemove l i := fun h =>
    (List.nodup_append.mp (hp.nodup_iff.mpr hnd)).2.2 t h t (List.mem_singleton_self t) rfl
  rw [← hp.mem_iff, List.mem_append, List.mem_singleton]
  exact ⟨fun hx => ⟨.inl hx, fun e => hnt (e ▸ hx)⟩, fun ⟨hx, hne⟩ => hx.resolve_right hne⟩

example : swapRemove [10, 20, 30, 40] 1 = [10, 40, 30] := by decide
example : swapRemove [10, 20, 30, 40] 3 = [10, 20, 30] := by decide
example : swapRemove [10] 0 = ([] : List Nat) := by decide
example : (swapRemove [10, 20, 30, 40] 1 ++ [20]).Perm [10, 20, 30, 40] :=
  swapRemove_append_perm _ 1 20 (by decide)

end Gecs

section
open Gecs
#print axioms swapRemove_length
#print axioms swapRemove_getElem?
#print axioms swapRemove_getElem?_src
#print axioms swapRemove_take
#print axioms swapRemove_perm
#print axioms swapRemove_append_perm
#print axioms mem_swapRemove_of_nodup
end
