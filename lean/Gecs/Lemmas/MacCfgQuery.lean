/-
C16 (query half) — `#[cfg]`-disabled query parameters behave as absent.

`expandQuery w ps ρ` (collect the predicates, run the `macro_rules!` chain under the truth
assignment `ρ`, look every predicate up again, set `enabled`, bind, generate) produces the
same observable result — or the same error — as the pipeline run on the erased parameter
list (disabled parameters deleted, attributes stripped) with no predicates at all, provided no
`OneOf` parameter carries a cfg attribute: the macro rejects such a query, while its erasure,
having no attributes, passes (last example).
-/
import Gecs.Lemmas.MacCfg
import Gecs.Lemmas.MacBind

namespace Gecs.Mac

theorem collectQuery_eq (ps : List QParam) :
    collectQuery ps = dedupAppend [] (ps.flatMap (·.cfgs)) :=
  foldl_dedupAppend _ [] ps

theorem collectQuery_nodup (ps : List QParam) : (collectQuery ps).Nodup := by
  rw [collectQuery_eq]; exact dedupAppend_nodup _ (by simp)

theorem mem_collectQuery {ps : List QParam} {c : String} :
    c ∈ collectQuery ps ↔ ∃ p ∈ ps, c ∈ p.cfgs := by
  rw [collectQuery_eq, mem_dedupAppend]; simp

theorem collectQuery_complete {ps : List QParam} {p : QParam} {c : String}
    (hp : p ∈ ps) (hc : c ∈ p.cfgs) : c ∈ collectQuery ps :=
  mem_collectQuery.mpr ⟨p, hp, hc⟩

/-- `is_cfg_enabled` of every parameter under the pipeline is the conjunction of its
predicates under `ρ` (in particular the `unwrap()` never panics). -/
theorem isCfgEnabled_pipeline {ps : List QParam} {p : QParam} (ρ : String → Bool) (hp : p ∈ ps) :
    isCfgEnabled (mkLookup (collectQuery ps) (chain ρ (collectQuery ps))) p
      = some (p.cfgs.all ρ) :=
  evaluateCfgs_pipeline ρ fun _ hc => collectQuery_complete hp hc

/-- What `expandQuery` does to a parameter before binding. -/
def setEn (ρ : String → Bool) (p : QParam) : QParam := { p with enabled := p.cfgs.all ρ }

theorem setEnabled_eq {l : CfgLookup} {ρ : String → Bool} (qs : List QParam)
    (h : ∀ p ∈ qs, isCfgEnabled l p = some (p.cfgs.all ρ)) :
    expandQuery.setEnabled l qs = some (qs.map (setEn ρ)) := by
  induction qs with
  | nil => rfl
  | cons q qs ih =>
    have hq := h q (List.mem_cons_self ..)
    have ih' := ih (fun x hx => h x (List.mem_cons_of_mem _ hx))
    simp [expandQuery.setEnabled, hq, ih', setEn]

/-- The query pipeline never hits a missing predicate and amounts to `generateQuery` on the
parameters with `enabled := p.cfgs.all ρ`. -/
theorem expandQuery_eq (w : DWorld) (ps : List QParam) (ρ : String → Bool) :
    expandQuery w ps ρ = generateQuery w (ps.map (setEn ρ)) := by
  unfold expandQuery
  simp only
  rw [setEnabled_eq (ρ := ρ) ps (fun p hp => isCfgEnabled_pipeline ρ hp)]

theorem expandQuery_ne_missingCfg (w : DWorld) (ps : List QParam) (ρ : String → Bool) :
    expandQuery w ps ρ ≠ .error .missingCfg := by
  rw [expandQuery_eq]
  intro h
  cases hb : bindQueryParams w (ps.map (setEn ρ)) with
  | error e =>
    rw [generateQuery_of_bind_error hb] at h
    cases h
    rcases bind_error_kind hb with h | ⟨_, _, _, h⟩ <;> cases h
  | ok bound =>
    rw [generateQuery_of_bind_ok hb] at h
    split at h <;> cases h

def strip (p : QParam) : QParam := { p with cfgs := [], enabled := true }

def eraseQuery (ρ : String → Bool) (ps : List QParam) : List QParam :=
  (ps.filter (fun p => p.cfgs.all ρ)).map (fun p => { p with cfgs := [], enabled := true })

/-- the observable projection of a result: what the emitted closure signature and call
contain (disabled parameters are `#[cfg]`-ed out of both) -/
def obs (m : List (DArch × List QParam)) : List (String × List (PType × Bool)) :=
  m.map (fun (a, bs) => (a.name, (bs.filter (·.enabled)).map (fun b => (b.ty, b.isMut))))

/-- the bound list of an archetype with the disabled entries removed and attributes stripped -/
def stripB (bs : List QParam) : List QParam := (bs.filter (·.enabled)).map strip

theorem eraseQuery_eq_stripB (ρ : String → Bool) (ps : List QParam) :
    eraseQuery ρ ps = stripB (ps.map (setEn ρ)) := by
  rw [eraseQuery, stripB, List.filter_map, List.map_map]; rfl

theorem stripB_eq_filterMap :
    stripB = List.filterMap (fun b => if b.enabled then some (strip b) else none) :=
  funext fun _ => (filterMap_eq_filter_map fun _ _ => rfl).symm

theorem expandQuery_erase (w : DWorld) (ps : List QParam) (ρ : String → Bool) :
    expandQuery w (eraseQuery ρ ps) (fun _ => true) = generateQuery w (eraseQuery ρ ps) := by
  -- a stripped parameter has no predicates, so `setEn` leaves it as it is
  rw [expandQuery_eq, eraseQuery, List.map_map]
  rfl

theorem paramMatchesB_disabled (a : DArch) {ρ : String → Bool} {p : QParam}
    (hen : p.cfgs.all ρ = false) (hone : (∃ cs, p.ty = .oneOf cs) → p.cfgs = []) :
    paramMatchesB a (setEn ρ p) = true := by
  cases h : p.ty <;> simp [paramMatchesB, setEn, h, hen]
  -- a OneOf has no predicates, so it is not disabled
  rw [hone ⟨_, h⟩] at hen
  cases hen

theorem paramMatchesB_enabled (a : DArch) {ρ : String → Bool} {p : QParam}
    (hen : p.cfgs.all ρ = true) : paramMatchesB a (strip p) = paramMatchesB a (setEn ρ p) := by
  unfold paramMatchesB
  rw [show (setEn ρ p).enabled = true from hen]
  rfl

theorem bindParam_disabled (a : DArch) {ρ : String → Bool} {p : QParam}
    (hen : p.cfgs.all ρ = false) (hone : (∃ cs, p.ty = .oneOf cs) → p.cfgs = []) :
    bindParam a (setEn ρ p) = .ok (some (setEn ρ p)) := by
  rw [bindParam_eq]
  split
  · rename_i cs h
    rw [hone ⟨cs, h⟩] at hen
    cases hen
  · rw [paramMatchesB_disabled a hen hone]; rfl

theorem bindParam_enabled (a : DArch) {ρ : String → Bool} {p : QParam}
    (hen : p.cfgs.all ρ = true) (hone : (∃ cs, p.ty = .oneOf cs) → p.cfgs = []) :
    bindParam a (strip p) = (bindParam a (setEn ρ p)).map (Option.map strip) := by
  rw [bindParam_eq, bindParam_eq]
  have hm := paramMatchesB_enabled a hen
  cases h : p.ty with
  | oneOf cs =>
    simp only [strip, setEn, h, hone ⟨cs, h⟩]
    rcases cs.filter a.contains with _ | ⟨c₁, _ | ⟨c₂, rest⟩⟩ <;> rfl
  | _ =>
    simp only [strip, setEn, h] at hm ⊢
    rw [hm]
    cases paramMatchesB a _ <;> rfl

theorem bindArch_erase (a : DArch) (ρ : String → Bool) (ps : List QParam)
    (h : ∀ p ∈ ps, (∃ cs, p.ty = .oneOf cs) → p.cfgs = []) :
    bindArch a (eraseQuery ρ ps) = (bindArch a (ps.map (setEn ρ))).map stripB := by
  rw [bindArch_eq, bindArch_eq, stripB_eq_filterMap, eraseQuery_eq_stripB]
  refine filterMapE_erase (·.enabled) strip (Option.map strip) _ ?_ ?_ ?_ <;> intro q hq hen <;>
    obtain ⟨p, hp, rfl⟩ := List.mem_map.mp hq
  · -- a disabled parameter is bound whatever the archetype, and `stripB` drops it again
    exact ⟨_, bindParam_disabled a hen (h p hp), if_neg (by simp [hen])⟩
  · exact bindParam_enabled a hen (h p hp)
  · intro r hr
    cases r with
    | none => rfl
    | some b => exact (if_pos ((bindParam_some hr).2.2.1.trans hen)).symm

/-- the keep condition is the same on both sides -/
theorem matches_erase (a : DArch) (ρ : String → Bool) (ps : List QParam)
    (h : ∀ p ∈ ps, (∃ cs, p.ty = .oneOf cs) → p.cfgs = []) :
    Matches a (eraseQuery ρ ps) ↔ Matches a (ps.map (setEn ρ)) := by
  simp only [Matches, eraseQuery, List.forall_mem_map, List.mem_filter, and_imp]
  refine forall_congr' fun p => forall_congr' fun hp => ?_
  cases hen : p.cfgs.all ρ with
  | false => simp [← paramMatchesB_iff, paramMatchesB_disabled a hen (h p hp)]
  | true =>
    rw [← paramMatchesB_iff, ← paramMatchesB_iff, ← paramMatchesB_enabled a hen]
    exact ⟨fun h => h rfl, fun h _ => h⟩

theorem bindQueryParams_erase (w : DWorld) (ρ : String → Bool) (ps : List QParam)
    (h : ∀ p ∈ ps, (∃ cs, p.ty = .oneOf cs) → p.cfgs = []) :
    bindQueryParams w (eraseQuery ρ ps) =
      (bindQueryParams w (ps.map (setEn ρ))).map (List.map fun kv => (kv.1, stripB kv.2)) := by
  rw [bindQueryParams_eq, bindQueryParams_eq]
  refine filterMapE_map (fun a _ => bindArch_erase a ρ ps h) fun a _ b hb => ?_
  have hA : bindArch a (eraseQuery ρ ps) = .ok (stripB b) := by
    rw [bindArch_erase a ρ ps h, hb]; rfl
  have hk : ((stripB b).length == (eraseQuery ρ ps).length) =
      (b.length == (ps.map (setEn ρ)).length) := by
    rw [Bool.eq_iff_iff, beq_iff_eq, beq_iff_eq, bindArch_length_iff hA, bindArch_length_iff hb]
    exact matches_erase a ρ ps h
  unfold keepBound
  rw [hk]
  cases b.length == (ps.map (setEn ρ)).length <;> rfl

theorem generateQuery_erase (w : DWorld) (ρ : String → Bool) (ps : List QParam)
    (h : ∀ p ∈ ps, (∃ cs, p.ty = .oneOf cs) → p.cfgs = []) :
    generateQuery w (eraseQuery ρ ps) =
      (generateQuery w (ps.map (setEn ρ))).map (List.map (fun ab => (ab.1, stripB ab.2))) := by
  unfold generateQuery
  rw [bindQueryParams_erase w ρ ps h]
  cases bindQueryParams w (ps.map (setEn ρ)) with
  | error e => rfl
  | ok r =>
    -- looking the archetypes up in the stripped table gives the stripped matches
    have : (w.archs.filterMap fun a =>
          ((r.map fun kv => (kv.1, stripB kv.2)).find? fun kv => kv.1 == a.name).map
            fun kv => (a, kv.2))
        = (w.archs.filterMap fun a =>
          (r.find? fun kv => kv.1 == a.name).map (fun kv => (a, kv.2))).map
            (fun ab => (ab.1, stripB ab.2)) := by
      rw [List.map_filterMap]
      congr 1
      funext a
      simp only [List.find?_map, Function.comp_def]
      cases r.find? (fun kv => kv.1 == a.name) <;> rfl
    simp only [Except.map, this, List.isEmpty_map]
    split <;> rfl

theorem obs_stripB (m : List (DArch × List QParam)) :
    obs (m.map (fun ab => (ab.1, stripB ab.2))) = obs m := by
  unfold obs stripB
  rw [List.map_map]
  refine List.map_congr_left fun ab _ => ?_
  -- every stripped entry is enabled, and `strip` keeps type and mutability
  have : ((ab.2.filter (·.enabled)).map strip).filter (·.enabled) =
      (ab.2.filter (·.enabled)).map strip :=
    List.filter_eq_self.mpr fun b hb => by obtain ⟨_, _, rfl⟩ := List.mem_map.mp hb; rfl
  simp only [Function.comp, this, List.map_map]
  rfl

/-- **C16, query half, on the un-projected results.** Under every truth assignment `ρ` the erased
query (run with no predicates at all) gives the same error as the decorated one, or code for the
same archetypes, each with the stripped enabled part of the decorated binding — provided no OneOf
parameter carries a cfg attribute (which the macro rejects). -/
theorem query_erasure_strong (w : DWorld) (ps : List QParam) (ρ : String → Bool)
    (h : ∀ p ∈ ps, (∃ cs, p.ty = .oneOf cs) → p.cfgs = []) :
    expandQuery w (eraseQuery ρ ps) (fun _ => true) =
      (expandQuery w ps ρ).map (List.map (fun ab => (ab.1, stripB ab.2))) := by
  rw [expandQuery_erase, expandQuery_eq, generateQuery_erase w ρ ps h]

namespace CfgQueryExample

open BindExample

attribute [local instance] BindExample.exceptDecEq

/-- `|#[cfg(f1)] d: &CompD, b: &mut CompB, x: &OneOf<CompA, CompD>,
#[cfg(f2)] #[cfg(f1)] e1: &EntityAny, #[cfg(f2)] e2: &EntityAny|` -/
def q : List QParam :=
  [⟨["f1"], false, .comp "CompD", true⟩, ⟨[], true, .comp "CompB", true⟩,
   ⟨[], false, .oneOf ["CompA", "CompD"], true⟩, ⟨["f2", "f1"], false, .entAny, true⟩,
   ⟨["f2"], false, .entAny, true⟩]

/-- `f1` off, `f2` on -/
def ρ₀ : String → Bool := fun s => s == "f2"

/-- the hypothesis of `query_erasure_strong` holds -/
example : ∀ p ∈ q, (∃ cs, p.ty = .oneOf cs) → p.cfgs = [] := by
  intro p hp
  simp only [q, List.mem_cons, List.not_mem_nil, or_false] at hp
  rcases hp with rfl | rfl | rfl | rfl | rfl <;> simp

example : collectQuery q = ["f1", "f2"] := by decide +kernel

example : eraseQuery ρ₀ q =
    [⟨[], true, .comp "CompB", true⟩, ⟨[], false, .oneOf ["CompA", "CompD"], true⟩,
     ⟨[], false, .entAny, true⟩] := by decide +kernel

/-- with `f1` off the `CompD` parameter is absent: `ArchFoo` and `ArchBaz` match -/
example : (expandQuery world q ρ₀).map obs = .ok
    [("ArchFoo", [(.comp "CompB", true), (.comp "CompA", false), (.entAny, false)]),
     ("ArchBaz", [(.comp "CompB", true), (.comp "CompA", false), (.entAny, false)])] := by decide +kernel

example : (expandQuery world (eraseQuery ρ₀ q) (fun _ => true)).map obs = .ok
    [("ArchFoo", [(.comp "CompB", true), (.comp "CompA", false), (.entAny, false)]),
     ("ArchBaz", [(.comp "CompB", true), (.comp "CompA", false), (.entAny, false)])] := by decide +kernel

/-- with `f1` on nothing has both `CompD` and `CompB`: the same error on both sides -/
example : (expandQuery world q (fun _ => true)).map obs = .error .noMatch ∧
    (expandQuery world (eraseQuery (fun _ => true) q) (fun _ => true)).map obs = .error .noMatch := by
  decide +kernel

/-- an ambiguity error is the same on both sides -/
example :
    (expandQuery world [⟨["f1"], false, .comp "CompD", true⟩,
        ⟨[], false, .oneOf ["CompB", "CompC"], true⟩] ρ₀).map obs
      = .error (.ambiguous "ArchBaz" "CompB" "CompC") ∧
    (expandQuery world (eraseQuery ρ₀ [⟨["f1"], false, .comp "CompD", true⟩,
        ⟨[], false, .oneOf ["CompB", "CompC"], true⟩]) (fun _ => true)).map obs
      = .error (.ambiguous "ArchBaz" "CompB" "CompC") := by
  decide +kernel

/-- the hypothesis of `query_erasure_strong` is needed: a disabled OneOf with a cfg attribute is
rejected by the decorated pipeline but simply absent from the erased one -/
example :
    (expandQuery world [⟨["f1"], false, .oneOf ["CompD"], true⟩,
        ⟨[], false, .comp "CompA", true⟩] ρ₀).map obs = .error .cfgOnOneOf ∧
    (expandQuery world (eraseQuery ρ₀ [⟨["f1"], false, .oneOf ["CompD"], true⟩,
        ⟨[], false, .comp "CompA", true⟩]) (fun _ => true)).map obs
      = .ok [("ArchFoo", [(.comp "CompA", false)]), ("ArchBar", [(.comp "CompA", false)]),
             ("ArchBaz", [(.comp "CompA", false)])] := by
  decide +kernel

end CfgQueryExample

end Gecs.Mac

#print axioms Gecs.Mac.collectQuery_nodup
#print axioms Gecs.Mac.collectQuery_complete
#print axioms Gecs.Mac.isCfgEnabled_pipeline
#print axioms Gecs.Mac.expandQuery_eq
#print axioms Gecs.Mac.generateQuery_erase
#print axioms Gecs.Mac.query_erasure_strong
