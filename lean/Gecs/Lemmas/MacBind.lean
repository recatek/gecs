/-
C05 — queries act on exactly the archetypes whose component set satisfies them.

Specification (`ParamMatches`, `Matches`) and proofs about the query-binding half of
`Gecs/Model/Macro.lean` (`bindOneOf`, `bindParam`, `bindArch`, `bindQueryParams`,
`generateQuery`).  Everything is for arbitrary worlds (any number of archetypes and
components), arbitrary parameter lists and `OneOf` of any arity.  `bindArch` and
`bindQueryParams` are the same recursion, `filterMapE`; what is needed of either (the first
error, the successful run, erasure) is proved for `filterMapE`.
-/
import Gecs.Model.Macro

namespace Gecs.Mac

/-- the specification: archetype `a` satisfies parameter `p` -/
def ParamMatches (a : DArch) (p : QParam) : Prop :=
  match p.ty with
  | .comp c => p.enabled = true → a.contains c = true
  | .ent x | .dir x => p.enabled = true → a.name = x
  | .oneOf cs => (cs.filter a.contains).length = 1
  | .entAny | .dirAny | .entWild | .dirWild => True

def Matches (a : DArch) (ps : List QParam) : Prop := ∀ p ∈ ps, ParamMatches a p

/-- Boolean version of `ParamMatches` (used for the `Decidable` instance). -/
def paramMatchesB (a : DArch) (p : QParam) : Bool :=
  match p.ty with
  | .comp c => !p.enabled || a.contains c
  | .ent x | .dir x => !p.enabled || a.name == x
  | .oneOf cs => (cs.filter a.contains).length == 1
  | .entAny | .dirAny | .entWild | .dirWild => true

theorem paramMatchesB_iff (a : DArch) (p : QParam) :
    paramMatchesB a p = true ↔ ParamMatches a p := by
  obtain ⟨cfgs, isMut, ty, enabled⟩ := p
  cases ty <;> cases enabled <;> simp [paramMatchesB, ParamMatches]

instance (a : DArch) (p : QParam) : Decidable (ParamMatches a p) :=
  decidable_of_iff _ (paramMatchesB_iff a p)

instance (a : DArch) (ps : List QParam) : Decidable (Matches a ps) :=
  inferInstanceAs (Decidable (∀ p ∈ ps, ParamMatches a p))

theorem matches_cons (a : DArch) (p : QParam) (ps : List QParam) :
    Matches a (p :: ps) ↔ ParamMatches a p ∧ Matches a ps := by
  simp [Matches]

theorem bindOneOf_eq (a : DArch) (cs : List String) (found : Option String) :
    bindOneOf a cs found =
      match found, cs.filter a.contains with
      | none, [] => .ok none
      | none, [c] => .ok (some c)
      | none, c₁ :: c₂ :: _ => .error (.ambiguous a.name c₁ c₂)
      | some f, [] => .ok (some f)
      | some f, c :: _ => .error (.ambiguous a.name f c) := by
  induction cs generalizing found with
  | nil => cases found <;> simp [bindOneOf]
  | cons c cs ih =>
    by_cases hc : a.contains c = true
    · cases found with
      | some f => simp [bindOneOf, hc]
      | none =>
        simp only [bindOneOf, hc, if_true, List.filter_cons_of_pos, ih]
        cases hm : cs.filter a.contains <;> simp
    · simp only [Bool.not_eq_true] at hc
      simp [bindOneOf, hc, ih]

/-- `bindOneOf` with a general accumulator: `some f` behaves as if `f` were an earlier match. -/
theorem bindOneOf_spec_found (a : DArch) (cs : List String) (f : String) :
    (bindOneOf a cs (some f) = .ok (some f) ↔ cs.filter a.contains = []) ∧
    (∀ r, bindOneOf a cs (some f) = .ok r → r = some f) ∧
    (∀ e, bindOneOf a cs (some f) = .error e ↔
      ∃ c rest, cs.filter a.contains = c :: rest ∧ e = .ambiguous a.name f c) := by
  rw [bindOneOf_eq]
  cases hm : cs.filter a.contains with
  | nil => simp
  | cons c rest => simp [eq_comm]

/-- `bindOneOf` finds the unique present component, `none` if there is none, and reports
the first two present components (in order) otherwise. -/
theorem bindOneOf_spec (a : DArch) (cs : List String) :
    (∀ c, bindOneOf a cs none = .ok (some c) ↔ cs.filter a.contains = [c]) ∧
    (bindOneOf a cs none = .ok none ↔ cs.filter a.contains = []) ∧
    ((∃ e, bindOneOf a cs none = .error e) ↔ (cs.filter a.contains).length ≥ 2) ∧
    (∀ e, bindOneOf a cs none = .error e ↔
      ∃ c₁ c₂ rest, cs.filter a.contains = c₁ :: c₂ :: rest ∧ e = .ambiguous a.name c₁ c₂) := by
  rw [bindOneOf_eq]
  cases hm : cs.filter a.contains with
  | nil => simp
  | cons c₁ rest =>
    cases rest with
    | nil => simp [eq_comm]
    | cons c₂ rest =>
      refine ⟨?_, ?_, ?_, ?_⟩
      · intro c; simp
      · simp
      · simp
      · intro e
        constructor
        · intro h; cases h; exact ⟨c₁, c₂, rest, rfl, rfl⟩
        · rintro ⟨_, _, _, h, rfl⟩; cases h; rfl

theorem bindOneOf_ok_none_iff (a : DArch) (cs : List String) :
    bindOneOf a cs none = .ok none ↔ cs.filter a.contains = [] :=
  (bindOneOf_spec a cs).2.1

/-- The lemmas on `bindParam` below go through this form and do not split the eight cases of `p.ty`
again. -/
theorem bindParam_eq (a : DArch) (p : QParam) :
    bindParam a p =
      match p.ty with
      | .oneOf cs =>
        if p.cfgs ≠ [] then .error .cfgOnOneOf
        else match cs.filter a.contains with
          | [] => .ok none
          | [c] => .ok (some { p with ty := .comp c })
          | c₁ :: c₂ :: _ => .error (.ambiguous a.name c₁ c₂)
      | _ => .ok (if paramMatchesB a p then some p else none) := by
  obtain ⟨cfgs, isMut, ty, enabled⟩ := p
  cases ty <;> simp [bindParam, paramMatchesB, bindOneOf_eq]
  case oneOf cs =>
    cases cfgs <;> simp
    rcases List.filter a.contains cs with _ | ⟨c₁, _ | ⟨c₂, rest⟩⟩ <;> rfl
  all_goals split <;> rfl

theorem bindParam_isSome_iff {a : DArch} {p : QParam} {r : Option QParam}
    (h : bindParam a p = .ok r) : r.isSome = true ↔ ParamMatches a p := by
  rw [← paramMatchesB_iff]
  rw [bindParam_eq] at h
  split at h
  · rename_i cs hty
    simp only [paramMatchesB, hty]
    split at h; · cases h
    rcases hm : cs.filter a.contains with _ | ⟨c₁, _ | ⟨c₂, rest⟩⟩ <;> simp only [hm] at h <;>
      cases h <;> simp
  · cases h; cases paramMatchesB a p <;> simp

theorem bindParam_some {a : DArch} {p b : QParam} (h : bindParam a p = .ok (some b)) :
    b.cfgs = p.cfgs ∧ b.isMut = p.isMut ∧ b.enabled = p.enabled ∧
    (match p.ty with
     | .oneOf cs => ∃ c, b.ty = .comp c ∧ cs.filter a.contains = [c]
     | t => b.ty = t) := by
  rw [bindParam_eq] at h
  split at h
  · rename_i cs hty
    split at h; · cases h
    split at h <;> cases h
    exact ⟨rfl, rfl, rfl, _, rfl, ‹_›⟩
  · split at h <;> cases h
    exact ⟨rfl, rfl, rfl, rfl⟩

theorem bindParam_error_iff (a : DArch) (p : QParam) :
    (∃ e, bindParam a p = .error e) ↔
      ∃ cs, p.ty = .oneOf cs ∧ (p.cfgs ≠ [] ∨ (cs.filter a.contains).length ≥ 2) := by
  rw [bindParam_eq]
  split
  · rename_i cs hty
    simp only [hty, PType.oneOf.injEq, exists_eq_left']
    split; · simp [*]
    rcases hm : cs.filter a.contains with _ | ⟨c₁, _ | ⟨c₂, rest⟩⟩ <;> simp [*]
  · rename_i hne
    simp only [reduceCtorEq, exists_false, false_iff]
    rintro ⟨cs, hty, -⟩
    exact hne cs hty

theorem bindParam_error_eq {a : DArch} {p : QParam} {e : BindErr} (h : bindParam a p = .error e) :
    ∃ cs, p.ty = .oneOf cs ∧
      ((p.cfgs ≠ [] ∧ e = .cfgOnOneOf) ∨
       (p.cfgs = [] ∧ ∃ c₁ c₂ rest, cs.filter a.contains = c₁ :: c₂ :: rest ∧
          e = .ambiguous a.name c₁ c₂)) := by
  rw [bindParam_eq] at h
  split at h
  · rename_i cs hty
    refine ⟨cs, hty, ?_⟩
    split at h; · cases h; simp [*]
    split at h <;> cases h
    exact .inr ⟨Decidable.of_not_not ‹_›, _, _, _, ‹_›, rfl⟩
  · cases h

section FilterMapE
variable {α β γ ε : Type} {f : α → Except ε β} {g : α → β → Option γ}

/-- run `f` over the list, stop at the first error, keep the `some`s of `g x (result)` -/
def filterMapE (f : α → Except ε β) (g : α → β → Option γ) : List α → Except ε (List γ)
  | [] => .ok []
  | x :: xs =>
    match f x with
    | .error e => .error e
    | .ok r =>
      match filterMapE f g xs with
      | .error e => .error e
      | .ok rest => .ok (match g x r with | some y => y :: rest | none => rest)

/-- what `x` contributes to a successful run -/
def keepE (f : α → Except ε β) (g : α → β → Option γ) (x : α) : Option γ :=
  match f x with
  | .ok r => g x r
  | .error _ => none

theorem filterMapE_error_first {xs : List α} {e : ε} :
    filterMapE f g xs = .error e ↔
      ∃ xs₁ x xs₂, xs = xs₁ ++ x :: xs₂ ∧ (∀ q ∈ xs₁, ∃ r, f q = .ok r) ∧ f x = .error e := by
  induction xs with
  | nil => simp [filterMapE]
  | cons x xs ih =>
    have step : (∃ xs₁ y xs₂, x :: xs = xs₁ ++ y :: xs₂ ∧ (∀ q ∈ xs₁, ∃ r, f q = .ok r) ∧
          f y = .error e) ↔
        f x = .error e ∨ ((∃ r, f x = .ok r) ∧ filterMapE f g xs = .error e) := by
      rw [ih]
      constructor
      · rintro ⟨_ | ⟨z, xs₁⟩, y, xs₂, heq, hok, hy⟩ <;> cases heq
        · exact .inl hy
        · exact .inr ⟨hok _ (List.mem_cons_self ..), xs₁, y, xs₂, rfl,
            fun q hq => hok q (List.mem_cons_of_mem _ hq), hy⟩
      · rintro (hx | ⟨hx, xs₁, y, xs₂, rfl, hok, hy⟩)
        · exact ⟨[], x, xs, rfl, by simp, hx⟩
        · exact ⟨x :: xs₁, y, xs₂, rfl, by simpa [hx] using hok, hy⟩
    rw [step]
    cases hx : f x <;> cases hr : filterMapE f g xs <;> simp [filterMapE, hx, hr]

theorem filterMapE_error_mem {xs : List α} {e : ε} (h : filterMapE f g xs = .error e) :
    ∃ x ∈ xs, f x = .error e := by
  obtain ⟨xs₁, x, xs₂, rfl, _, hx⟩ := filterMapE_error_first.1 h
  exact ⟨x, by simp, hx⟩

theorem filterMapE_ok {xs : List α} {ys : List γ} (h : filterMapE f g xs = .ok ys) :
    (∀ x ∈ xs, ∃ r, f x = .ok r) ∧ ys = xs.filterMap (keepE f g) := by
  induction xs generalizing ys with
  | nil => simpa [filterMapE, eq_comm] using h
  | cons x xs ih =>
    cases hx : f x <;> cases hr : filterMapE f g xs <;> simp [filterMapE, hx, hr] at h
    obtain ⟨h1, h2⟩ := ih hr
    subst h h2
    cases hg : g x _ <;> simpa [keepE, hx, hg] using h1

theorem filterMapE_isError {xs : List α} :
    (∃ e, filterMapE f g xs = .error e) ↔ ∃ x ∈ xs, ∃ e, f x = .error e := by
  constructor
  · rintro ⟨e, h⟩
    obtain ⟨x, hx, he⟩ := filterMapE_error_mem h
    exact ⟨x, hx, e, he⟩
  · rintro ⟨x, hx, e, he⟩
    cases h : filterMapE f g xs with
    | error e' => exact ⟨e', rfl⟩
    | ok ys =>
      obtain ⟨r, hr⟩ := (filterMapE_ok h).1 x hx
      rw [he] at hr; cases hr

theorem filterMapE_length_iff {xs : List α} {ys : List γ} (h : filterMapE f g xs = .ok ys) :
    ys.length = xs.length ↔ ∀ x ∈ xs, (keepE f g x).isSome := by
  rw [(filterMapE_ok h).2, List.filterMap_length_eq_length]

theorem filterMapE_getElem? {xs : List α} {ys : List γ} (h : filterMapE f g xs = .ok ys)
    (hl : ys.length = xs.length) {i : Nat} {x : α} {y : γ} (hx : xs[i]? = some x)
    (hy : ys[i]? = some y) : ∃ r, f x = .ok r ∧ g x r = some y := by
  obtain ⟨hok, rfl⟩ := filterMapE_ok h
  have hm : (xs.filterMap (keepE f g)).map some = xs.map (keepE f g) := by
    rw [List.map_filterMap_some_eq_filter_map_isSome, List.filter_eq_self]
    simpa using hl
  have hi := congrArg (·[i]?) hm
  obtain ⟨r, hr⟩ := hok x (List.mem_of_getElem? hx)
  exact ⟨r, hr, by simpa [hx, hy, keepE, hr] using hi.symm⟩

/-- Deleting beforehand the elements that cannot fail and whose contribution `θ` discards
(`keep x = false`), and renaming the others (`φ`), changes nothing: if on a kept element `f'` after
`φ` is `f` followed by `ρ`, and `g'` on such a result is `g` followed by `θ`, then the run of `f'`,
`g'` over the reduced list is the run of `f`, `g` with `θ` applied to every output (same error
otherwise). -/
theorem filterMapE_erase {α' β' γ' : Type} {f' : α' → Except ε β'} {g' : α' → β' → Option γ'}
    (keep : α → Bool) (φ : α → α') (ρ : β → β') (θ : γ → Option γ') {xs : List α}
    (hdrop : ∀ x ∈ xs, keep x = false → ∃ r, f x = .ok r ∧ (g x r).bind θ = none)
    (hf : ∀ x ∈ xs, keep x = true → f' (φ x) = (f x).map ρ)
    (hg : ∀ x ∈ xs, keep x = true → ∀ r, f x = .ok r → g' (φ x) (ρ r) = (g x r).bind θ) :
    filterMapE f' g' ((xs.filter keep).map φ) = (filterMapE f g xs).map (List.filterMap θ) := by
  induction xs with
  | nil => rfl
  | cons x xs ih =>
    have ih' := ih (fun y hy => hdrop y (List.mem_cons_of_mem _ hy))
      (fun y hy => hf y (List.mem_cons_of_mem _ hy)) (fun y hy => hg y (List.mem_cons_of_mem _ hy))
    have hx := List.mem_cons_self (a := x) (l := xs)
    cases hk : keep x with
    | false =>
      obtain ⟨r, hr, hθ⟩ := hdrop x hx hk
      rw [List.filter_cons_of_neg (by simp [hk]), ih', filterMapE, hr]
      cases filterMapE f g xs with
      | error e => rfl
      | ok rest =>
        simp only [Except.map]
        cases hy : g x r with
        | none => rfl
        | some y =>
          rw [hy] at hθ
          simp only [List.filterMap_cons, show θ y = none from hθ]
    | true =>
      rw [List.filter_cons_of_pos hk, List.map_cons, filterMapE, filterMapE, hf x hx hk, ih']
      cases hr : f x with
      | error e => rfl
      | ok r =>
        cases filterMapE f g xs with
        | error e => rfl
        | ok rest =>
          simp only [Except.map, hg x hx hk r hr]
          cases g x r with
          | none => rfl
          | some y => simp only [Option.bind_some, List.filterMap_cons]; cases θ y <;> rfl

theorem filterMapE_map {β' γ' : Type} {f' : α → Except ε β'} {g' : α → β' → Option γ'}
    {φ : β → β'} {ψ : γ → γ'} {xs : List α} (hf : ∀ x ∈ xs, f' x = (f x).map φ)
    (hg : ∀ x ∈ xs, ∀ r, f x = .ok r → g' x (φ r) = (g x r).map ψ) :
    filterMapE f' g' xs = (filterMapE f g xs).map (List.map ψ) := by
  have := filterMapE_erase (f := f) (g := g) (f' := f') (g' := g') (fun _ => true) id φ
    (fun y => some (ψ y)) (xs := xs) (fun _ _ h => nomatch h) (fun x hx _ => hf x hx)
    (fun x hx _ r hr => (hg x hx r hr).trans (by rw [Option.map_eq_bind]; rfl))
  rwa [List.filter_eq_self.mpr fun _ _ => rfl, List.map_id, List.filterMap_eq_map'] at this

end FilterMapE

theorem bindArch_eq (a : DArch) (ps : List QParam) :
    bindArch a ps = filterMapE (bindParam a) (fun _ r => r) ps := by
  fun_induction bindArch a ps <;> simp_all only [filterMapE]
  split <;> rfl

/-- `bound.len() == params.len()` holds exactly for the archetypes satisfying the query. -/
theorem bindArch_length_iff {a : DArch} {ps bound : List QParam}
    (h : bindArch a ps = .ok bound) : bound.length = ps.length ↔ Matches a ps := by
  rw [bindArch_eq] at h
  rw [filterMapE_length_iff h]
  refine forall_congr' fun p => forall_congr' fun hp => ?_
  obtain ⟨r, hr⟩ := (filterMapE_ok h).1 p hp
  simp [keepE, hr, bindParam_isSome_iff hr]

theorem bindArch_error_iff (a : DArch) (ps : List QParam) :
    (∃ e, bindArch a ps = .error e) ↔ ∃ p ∈ ps, ∃ e, bindParam a p = .error e := by
  rw [bindArch_eq]; exact filterMapE_isError

/-- Which error `bindArch` raises: that of the first failing parameter (later parameters are
still examined after a non-matching one: the Rust loop `continue`s, it does not `break`). -/
theorem bindArch_error_first (a : DArch) (ps : List QParam) (e : BindErr) :
    bindArch a ps = .error e ↔
      ∃ ps₁ p ps₂, ps = ps₁ ++ p :: ps₂ ∧ (∀ q ∈ ps₁, ∃ r, bindParam a q = .ok r) ∧
        bindParam a p = .error e := by
  rw [bindArch_eq]; exact filterMapE_error_first

/-- whether an archetype's bound list is kept -/
def keepBound (ps : List QParam) (a : DArch) (b : List QParam) : Option (String × List QParam) :=
  if b.length == ps.length then some (a.name, b) else none

theorem bindQueryParams_eq (w : DWorld) (ps : List QParam) :
    bindQueryParams w ps = filterMapE (fun a => bindArch a ps) (keepBound ps) w.archs := by
  unfold bindQueryParams
  generalize w.archs = as
  fun_induction bindQueryParams.go ps as <;> simp_all only [filterMapE, keepBound]
  split <;> rfl

theorem bindQueryParams_error_iff (w : DWorld) (ps : List QParam) :
    (∃ e, bindQueryParams w ps = .error e) ↔ ∃ a ∈ w.archs, ∃ e, bindArch a ps = .error e := by
  rw [bindQueryParams_eq]; exact filterMapE_isError

/-- The bound list of an archetype (`[]` when binding fails). -/
def boundOf (ps : List QParam) (a : DArch) : List QParam :=
  match bindArch a ps with
  | .ok b => b
  | .error _ => []

theorem filterMap_eq_filter_map {α β : Type} {f : α → Option β} {q : α → Bool} {k : α → β}
    {l : List α} (h : ∀ a ∈ l, f a = if q a then some (k a) else none) :
    l.filterMap f = (l.filter q).map k := by
  induction l with
  | nil => rfl
  | cons a l ih =>
    rw [List.filterMap_cons, h a (List.mem_cons_self ..),
      ih fun x hx => h x (List.mem_cons_of_mem _ hx)]
    cases hq : q a <;> simp [hq]

/-- No hypothesis on names: distinct names are needed only to trace a key of the table back to its
archetype (`bind_sound_complete`). -/
theorem bind_closed {w : DWorld} {ps : List QParam} {r : List (String × List QParam)}
    (h : bindQueryParams w ps = .ok r) :
    (∀ a ∈ w.archs, bindArch a ps = .ok (boundOf ps a)) ∧
    r = (w.archs.filter (fun a => decide (Matches a ps))).map
          (fun a => (a.name, boundOf ps a)) := by
  rw [bindQueryParams_eq] at h
  obtain ⟨hok, rfl⟩ := filterMapE_ok h
  have hb : ∀ a ∈ w.archs, bindArch a ps = .ok (boundOf ps a) := fun a ha => by
    obtain ⟨b, (hb : bindArch a ps = .ok b)⟩ := hok a ha
    simp [boundOf, hb]
  refine ⟨hb, filterMap_eq_filter_map fun a ha => ?_⟩
  simp [keepE, keepBound, hb a ha, bindArch_length_iff (hb a ha)]

theorem map_name_inj {as : List DArch} (hnd : (as.map (·.name)).Nodup) {a a' : DArch}
    (ha : a ∈ as) (ha' : a' ∈ as) (hn : a.name = a'.name) : a = a' :=
  have hp := List.pairwise_map.mp hnd
  List.Pairwise.forall_of_forall_of_flip (R := fun a a' : DArch => a.name = a'.name → a = a')
    (fun _ _ _ => rfl) (hp.imp fun hne hn => absurd hn hne) (hp.imp fun hne hn => absurd hn.symm hne)
    ha ha' hn

theorem bind_sound_complete {w : DWorld} {ps : List QParam} {r : List (String × List QParam)}
    (hnd : (w.archs.map (·.name)).Nodup) (h : bindQueryParams w ps = .ok r) :
    (∀ a ∈ w.archs, ((∃ bs, (a.name, bs) ∈ r) ↔ Matches a ps)) ∧
    r.map (·.1) = (w.archs.filter (fun a => decide (Matches a ps))).map (·.name) ∧
    (∀ a ∈ w.archs, ∀ bs, (a.name, bs) ∈ r → bindArch a ps = .ok bs) := by
  obtain ⟨hb, hr⟩ := bind_closed h
  -- an entry under the name of `a` was made for `a` itself
  have key : ∀ a ∈ w.archs, ∀ bs, (a.name, bs) ∈ r → bindArch a ps = .ok bs ∧ Matches a ps := by
    intro a ha bs hmem
    rw [hr, List.mem_map] at hmem
    obtain ⟨a', ha', he⟩ := hmem
    simp only [List.mem_filter, decide_eq_true_eq, Prod.mk.injEq] at ha' he
    obtain rfl := map_name_inj hnd ha'.1 ha he.1
    exact ⟨he.2 ▸ hb a' ha, ha'.2⟩
  exact ⟨fun a ha => ⟨fun ⟨bs, hbs⟩ => (key a ha bs hbs).2,
      fun hm => ⟨_, hr ▸ List.mem_map.mpr ⟨a, by simp [ha, hm], rfl⟩⟩⟩,
    by rw [hr, List.map_map]; rfl, fun a ha bs hbs => (key a ha bs hbs).1⟩

/-- Which error `bind_query_params` raises: that of the first archetype (declaration order)
for which binding fails, and within it of the first failing parameter
(`bindArch_error_first`).  In particular an ambiguity of an earlier parameter precedes the
cfg-on-OneOf rejection of a later one for the same archetype. -/
theorem bind_error_first (w : DWorld) (ps : List QParam) (e : BindErr) :
    bindQueryParams w ps = .error e ↔
      ∃ as₁ a as₂, w.archs = as₁ ++ a :: as₂ ∧ (∀ a' ∈ as₁, ∃ b, bindArch a' ps = .ok b) ∧
        bindArch a ps = .error e := by
  rw [bindQueryParams_eq]; exact filterMapE_error_first

/-- `bind_query_params` never produces the `noMatch`/`missingCfg` errors itself. -/
theorem bind_error_kind {w : DWorld} {ps : List QParam} {e : BindErr}
    (h : bindQueryParams w ps = .error e) :
    e = .cfgOnOneOf ∨ ∃ n c₁ c₂, e = .ambiguous n c₁ c₂ := by
  rw [bindQueryParams_eq] at h
  obtain ⟨a, _, (ha : bindArch a ps = .error e)⟩ := filterMapE_error_mem h
  rw [bindArch_eq] at ha
  obtain ⟨p, _, hp⟩ := filterMapE_error_mem ha
  obtain ⟨cs, _, h1 | ⟨_, c₁, c₂, _, _, h2⟩⟩ := bindParam_error_eq hp
  · exact .inl h1.2
  · exact .inr ⟨_, c₁, c₂, h2⟩

/-- With distinct names, the lookup by name finds an archetype's own entry. -/
theorem bind_find? {w : DWorld} {ps : List QParam} {r : List (String × List QParam)}
    (hnd : (w.archs.map (·.name)).Nodup) (h : bindQueryParams w ps = .ok r)
    {a : DArch} (ha : a ∈ w.archs) :
    (r.find? (fun kv => kv.1 == a.name)).map (fun kv => (a, kv.2)) =
      if decide (Matches a ps) then some (a, boundOf ps a) else none := by
  obtain ⟨h1, _, h3⟩ := bind_sound_complete hnd h
  cases hf : r.find? (fun kv => kv.1 == a.name) with
  | none =>
    have hnm : ¬ Matches a ps := fun hm => by
      obtain ⟨bs, hbs⟩ := (h1 a ha).2 hm
      simpa using List.find?_eq_none.1 hf (a.name, bs) hbs
    simp [hnm]
  | some kv =>
    have hk : kv.1 = a.name := by simpa using List.find?_some hf
    have hin : (a.name, kv.2) ∈ r := hk ▸ List.mem_of_find?_eq_some hf
    simp [(h1 a ha).1 ⟨_, hin⟩, boundOf, h3 a ha _ hin]

theorem generateQuery_of_bind_error {w : DWorld} {ps : List QParam} {e : BindErr}
    (hb : bindQueryParams w ps = .error e) : generateQuery w ps = .error e := by
  unfold generateQuery
  rw [hb]

theorem generateQuery_of_bind_ok {w : DWorld} {ps : List QParam}
    {bound : List (String × List QParam)} (hb : bindQueryParams w ps = .ok bound) :
    generateQuery w ps =
      if (w.archs.filterMap fun a =>
          (bound.find? fun kv => kv.1 == a.name).map fun kv => (a, kv.2)) = [] then
        .error .noMatch
      else .ok (w.archs.filterMap fun a =>
          (bound.find? fun kv => kv.1 == a.name).map fun kv => (a, kv.2)) := by
  unfold generateQuery
  rw [hb]
  simp only [List.isEmpty_iff]

theorem generateQuery_closed {w : DWorld} {ps : List QParam} {m : List (DArch × List QParam)}
    (hnd : (w.archs.map (·.name)).Nodup) (h : generateQuery w ps = .ok m) :
    m = (w.archs.filter (fun a => decide (Matches a ps))).map (fun a => (a, boundOf ps a)) ∧
    m ≠ [] ∧ ∀ a ∈ w.archs, bindArch a ps = .ok (boundOf ps a) := by
  cases hb : bindQueryParams w ps with
  | error e => rw [generateQuery_of_bind_error hb] at h; cases h
  | ok bound =>
    rw [generateQuery_of_bind_ok hb, filterMap_eq_filter_map fun a ha => bind_find? hnd hb ha] at h
    split at h <;> cases h
    exact ⟨rfl, ‹_›, (bind_closed hb).1⟩

theorem generateQuery_mem {w : DWorld} {ps : List QParam} {m : List (DArch × List QParam)}
    (hnd : (w.archs.map (·.name)).Nodup) (h : generateQuery w ps = .ok m) :
    ∀ a bs, (a, bs) ∈ m → a ∈ w.archs ∧ Matches a ps ∧ bindArch a ps = .ok bs ∧
      bs.length = ps.length := by
  obtain ⟨rfl, _, hb⟩ := generateQuery_closed hnd h
  intro a bs hmem
  obtain ⟨a', ha', he⟩ := List.mem_map.1 hmem
  cases he
  simp only [List.mem_filter, decide_eq_true_eq] at ha'
  exact ⟨ha'.1, ha'.2, hb a ha'.1, (bindArch_length_iff (hb a ha'.1)).2 ha'.2⟩

namespace BindExample

/-- `Except` has no `DecidableEq` instance in core; a local one for the `decide` examples. -/
@[instance_reducible] def exceptDecEq {ε α : Type} [DecidableEq ε] [DecidableEq α] : DecidableEq (Except ε α)
  | .ok a, .ok b => if h : a = b then isTrue (by rw [h]) else isFalse (fun h' => h (Except.ok.inj h'))
  | .error a, .error b =>
    if h : a = b then isTrue (by rw [h]) else isFalse (fun h' => h (Except.error.inj h'))
  | .ok _, .error _ => isFalse (fun h => by cases h)
  | .error _, .ok _ => isFalse (fun h => by cases h)

attribute [local instance] exceptDecEq

def cA : DComp := ⟨0, "CompA"⟩
def cB : DComp := ⟨1, "CompB"⟩
def cC : DComp := ⟨2, "CompC"⟩
def cD : DComp := ⟨3, "CompD"⟩

def arch0 : DArch := ⟨0, "ArchFoo", [cA, cB]⟩
def arch1 : DArch := ⟨1, "ArchBar", [cA, cC]⟩
def arch2 : DArch := ⟨2, "ArchBaz", [cA, cB, cC]⟩
def arch3 : DArch := ⟨3, "ArchQux", [cD]⟩

def world : DWorld := ⟨"W", [arch0, arch1, arch2, arch3]⟩

/-- `|a: &CompA, x: &mut OneOf<CompB, CompD>, e: &Entity<_>|` -/
def qTwo : List QParam :=
  [⟨[], false, .comp "CompA", true⟩, ⟨[], true, .oneOf ["CompB", "CompD"], true⟩,
   ⟨[], false, .entWild, true⟩]

/-- `|x: &OneOf<CompB, CompC>|`: ambiguous for `ArchBaz`. -/
def qAmb : List QParam := [⟨[], false, .oneOf ["CompB", "CompC"], true⟩]

/-- `|a: &CompA, d: &CompD|`: no archetype has both. -/
def qNone : List QParam := [⟨[], false, .comp "CompA", true⟩, ⟨[], false, .comp "CompD", true⟩]

/-- the hypothesis of `bind_sound_complete` / `generateQuery_closed` holds -/
example : (world.archs.map (·.name)).Nodup := by decide +kernel

/-- a query matching exactly two archetypes (`ArchFoo`, `ArchBaz`) via OneOf, the OneOf being
bound to `CompB` with its mutability -/
example : generateQuery world qTwo = .ok
    [(arch0, [⟨[], false, .comp "CompA", true⟩, ⟨[], true, .comp "CompB", true⟩,
              ⟨[], false, .entWild, true⟩]),
     (arch2, [⟨[], false, .comp "CompA", true⟩, ⟨[], true, .comp "CompB", true⟩,
              ⟨[], false, .entWild, true⟩])] := by decide +kernel

example : world.archs.filter (fun a => decide (Matches a qTwo)) = [arch0, arch2] := by decide +kernel

/-- `ArchQux` has `CompD` but not `CompA`; the OneOf alone would match three archetypes -/
example : world.archs.filter (fun a => decide (Matches a [qTwo[1]])) = [arch0, arch2, arch3] := by
  decide +kernel

example : generateQuery world qAmb = .error (.ambiguous "ArchBaz" "CompB" "CompC") := by decide +kernel

example : bindOneOf arch2 ["CompD", "CompC", "CompA", "CompB"] none
    = .error (.ambiguous "ArchBaz" "CompC" "CompA") := by decide +kernel

example : generateQuery world qNone = .error .noMatch := by decide +kernel

example : (∃ r, bindQueryParams world qNone = .ok r) ∧ ∀ a ∈ world.archs, ¬ Matches a qNone := by
  exact ⟨⟨[], by decide +kernel⟩, by decide +kernel⟩

/-- cfg on a OneOf is rejected (when there is an archetype to bind against) -/
example : generateQuery world [⟨["feature = \"x\""], false, .oneOf ["CompD"], true⟩]
    = .error .cfgOnOneOf := by decide +kernel

/-- order of checks: for `ArchFoo` the cfg-on-OneOf rejection of the second parameter is
reached first, although the first parameter is ambiguous for the later `ArchBaz` -/
example : generateQuery world [⟨[], false, .oneOf ["CompB", "CompC"], true⟩,
      ⟨["f"], false, .oneOf ["CompD"], true⟩] = .error .cfgOnOneOf := by decide +kernel

/-- … but within one archetype an earlier ambiguity precedes a later cfg-on-OneOf -/
example : generateQuery ⟨"W", [arch2, arch0]⟩ [⟨[], false, .oneOf ["CompB", "CompC"], true⟩,
      ⟨["f"], false, .oneOf ["CompD"], true⟩] = .error (.ambiguous "ArchBaz" "CompB" "CompC") := by
  decide +kernel

/-- an ambiguity is reported even for an archetype an earlier parameter already excluded
(`ArchBaz` has no `CompD`): the Rust loop `continue`s instead of `break`ing -/
example : generateQuery world [⟨[], false, .comp "CompD", true⟩,
      ⟨[], false, .oneOf ["CompB", "CompC"], true⟩]
    = .error (.ambiguous "ArchBaz" "CompB" "CompC") := by decide +kernel

end BindExample

end Gecs.Mac

#print axioms Gecs.Mac.bindOneOf_eq
#print axioms Gecs.Mac.bindOneOf_spec
#print axioms Gecs.Mac.bindOneOf_spec_found
#print axioms Gecs.Mac.bindArch_length_iff
#print axioms Gecs.Mac.bind_sound_complete
#print axioms Gecs.Mac.bind_error_first
#print axioms Gecs.Mac.bindArch_error_first
#print axioms Gecs.Mac.generateQuery_mem
