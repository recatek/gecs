/-
C11: runtime-borrowed access never aliases a mutable reference.

On the counters alone: dropping a granted guard undoes the grant (`release_get`), so an
execution restores every counter on both outcomes, from any cells whatever.  What is refused is
said through a ghost list of the outstanding guards (`Held`); `Abs` ties the counters to it and
`ghostCell` is the counter the list prescribes for one cell: under `Abs`, `tryBorrow` is the
ghost-level test `compatible` and pushes the granted guard.  The static conflict predicate is
`okOne`/`okList`, refined by `panicOne`/`panicList`, which also predicts the panic kind; it is
exact under any ghost list the counters abstract.  That no state on the way has a writer
together with readers is the one fact that needs the list to be `exclusive`.
`exec_rule` is the one induction over `execOne`/`execList` (together with the states they go
through, `statesOne`/`statesList`) and `exec_inv` the one invariant proved by it; the theorems
`exec_*`/`execList_*` about arbitrary trees are its projections.  Then corollaries for a single
guard and for the high-level accesses `Node` through `compile`, and concrete instances.
Most corollaries that C11 is charged with are stated for a consistent state
(`Abs cs held` and `exclusive held = true`; `mut_conflicts` takes `Abs` only), also where the
lemma behind them (`exec_restores`, `execList_restores`, `exec_panic_eq`, `execList_panic_eq`,
`guard_granted`, `clone_panic_eq`) needs less: hence Lean's unused-variable warnings on them, here and in `Props/C11`.
-/
import Gecs.Model.Borrow

namespace Gecs.Borrow

theorem Cells.get_put (cs : Cells) (c c' : CellId) (x : Cell) :
    (cs.put c x).get c' = if c' = c then x else cs.get c' := by
  unfold Cells.get Cells.put
  by_cases h : c' = c
  · simp [h]
  · have hf : ∀ kv : CellId × Cell,
        decide ((kv.1 != c) = true ∧ (kv.1 == c') = true) = (kv.1 == c') := fun kv => by
      by_cases hk : kv.1 = c' <;> simp [hk, h]
    have hc : ((c, x).1 == c') = false := by simpa using Ne.symm h
    simp only [List.find?_cons, hc, List.find?_filter, hf, if_neg h]

/-- What `RefCell` tests and what a grant writes. -/
theorem tryBorrow_eq_some_iff {cs cs' : Cells} {c : CellId} {m : Bool} :
    tryBorrow cs c m = some cs' ↔
      ((cs.get c).writer = false ∧ (m = true → (cs.get c).readers = 0)) ∧
      cs.put c (if m then ⟨0, true⟩ else ⟨(cs.get c).readers + 1, false⟩) = cs' := by
  cases m <;> cases hw : (cs.get c).writer <;> simp [tryBorrow, hw, Nat.pos_iff_ne_zero]

theorem release_eq (cs : Cells) (c : CellId) (m : Bool) :
    release cs c m = cs.put c (if m then ⟨(cs.get c).readers, false⟩
      else ⟨(cs.get c).readers - 1, (cs.get c).writer⟩) := by
  cases m <;> rfl

/-- Dropping a granted guard undoes the grant, when what ran in between left every counter as
the grant had set it. -/
theorem release_get {cs cs' cs'' : Cells} {c : CellId} {m : Bool}
    (hb : tryBorrow cs c m = some cs') (h : ∀ c', cs''.get c' = cs'.get c') (c' : CellId) :
    (release cs'' c m).get c' = cs.get c' := by
  obtain ⟨⟨hw, hr⟩, rfl⟩ := tryBorrow_eq_some_iff.mp hb
  rw [release_eq, Cells.get_put]
  split
  · subst c'
    rw [h c, Cells.get_put, if_pos rfl]
    cases m
    · exact congrArg (Cell.mk _) hw.symm
    · show (⟨0, false⟩ : Cell) = _
      rw [← hw, ← hr rfl]
  · rw [h c', Cells.get_put, if_neg ‹_›]

/-- Outstanding guards, innermost first: (cell, mutable?). -/
abbrev Held := List (CellId × Bool)

/-- A new guard `(c, m)` is compatible with the guards still held iff every held guard on
the same cell is shared and the new one is shared too. -/
def compatible (held : Held) (c : CellId) (m : Bool) : Bool :=
  held.all (fun g => g.1 != c || (!m && !g.2))

/-- The `RefCell` exclusion invariant on the ghost list: each guard was compatible with the
guards acquired before it (pairwise compatibility). -/
def exclusive : Held → Bool
  | [] => true
  | (c, m) :: rest => compatible rest c m && exclusive rest

/-- The cell counters are exactly the abstraction of the ghost list of outstanding guards. -/
def Abs (cs : Cells) (held : Held) : Prop :=
  ∀ c, (cs.get c).readers = (held.filter (fun g => g.1 == c && !g.2)).length ∧
       (cs.get c).writer = held.any (fun g => g.1 == c && g.2)

theorem compatible_nil (c : CellId) (m : Bool) : compatible [] c m = true := rfl

theorem compatible_cons (g : CellId × Bool) (held : Held) (c : CellId) (m : Bool) :
    compatible (g :: held) c m = ((g.1 != c || (!m && !g.2)) && compatible held c m) := by
  simp [compatible]

theorem compatible_eq_true_iff {held : Held} {c : CellId} {m : Bool} :
    compatible held c m = true ↔ ∀ g ∈ held, g.1 = c → m = false ∧ g.2 = false := by
  simp only [compatible, List.all_eq_true]
  refine forall₂_congr fun g _ => ?_
  by_cases hc : g.1 = c <;> simp [hc]

theorem compatible_eq_false_iff {held : Held} {c : CellId} {m : Bool} :
    compatible held c m = false ↔ ∃ g ∈ held, g.1 = c ∧ (m || g.2) = true := by
  rw [compatible, List.all_eq_false]
  refine exists_congr fun g => and_congr_right fun _ => ?_
  cases m <;> cases g.2 <;> simp

/-- The counters the ghost list prescribes for cell `c`. -/
def ghostCell (held : Held) (c : CellId) : Cell :=
  ⟨(held.filter (fun g => g.1 == c && !g.2)).length, held.any (fun g => g.1 == c && g.2)⟩

theorem Abs_iff {cs : Cells} {held : Held} : Abs cs held ↔ ∀ c, cs.get c = ghostCell held c :=
  forall_congr' fun c => by cases cs.get c; simp [ghostCell]

theorem ghostCell_cons_ne {g : CellId × Bool} {c : CellId} (h : g.1 ≠ c) (held : Held) :
    ghostCell (g :: held) c = ghostCell held c := by
  have : (g.1 == c) = false := beq_false_of_ne h
  simp only [ghostCell, List.filter_cons, List.any_cons, this, Bool.false_and, Bool.false_or]
  rfl

theorem ghostCell_cons_self (c : CellId) (m : Bool) (held : Held) :
    ghostCell ((c, m) :: held) c =
      if m then ⟨(ghostCell held c).readers, true⟩
      else ⟨(ghostCell held c).readers + 1, (ghostCell held c).writer⟩ := by
  cases m <;> simp [ghostCell]

/-- What `RefCell` tests, on the ghost list. -/
theorem compatible_iff {held : Held} {c : CellId} {m : Bool} :
    compatible held c m = true ↔
      (ghostCell held c).writer = false ∧ (m = true → (ghostCell held c).readers = 0) := by
  induction held with
  | nil => exact ⟨fun _ => ⟨rfl, fun _ => rfl⟩, fun _ => rfl⟩
  | cons g held ih =>
    obtain ⟨c0, m0⟩ := g
    rw [compatible_cons, Bool.and_eq_true, ih]
    by_cases hc : c0 = c
    · subst hc
      rw [ghostCell_cons_self]
      cases m0 <;> cases m <;> simp
    · rw [ghostCell_cons_ne hc, bne_iff_ne.mpr hc, Bool.true_or]
      exact and_iff_right rfl

/-- Under the abstraction `try_borrow(_mut)` is the ghost-level test. -/
theorem tryBorrow_isSome {cs : Cells} {held : Held} (h : Abs cs held) (c : CellId) (m : Bool) :
    (tryBorrow cs c m).isSome = compatible held c m := by
  rw [Bool.eq_iff_iff, compatible_iff, ← Abs_iff.mp h c, Option.isSome_iff_exists]
  simp only [tryBorrow_eq_some_iff, exists_and_left, exists_eq', and_true]

theorem tryBorrow_abs {cs cs' : Cells} {held : Held} {c : CellId} {m : Bool}
    (h : Abs cs held) (hb : tryBorrow cs c m = some cs') : Abs cs' ((c, m) :: held) := by
  obtain ⟨⟨hw, hr⟩, rfl⟩ := tryBorrow_eq_some_iff.mp hb
  refine Abs_iff.mpr fun c' => ?_
  rw [Cells.get_put]
  split
  · subst c'
    rw [ghostCell_cons_self, ← Abs_iff.mp h c]
    cases m
    · exact congrArg (Cell.mk _) hw.symm
    · exact congrArg (Cell.mk · true) (hr rfl).symm
  · rw [ghostCell_cons_ne (Ne.symm ‹_›), Abs_iff.mp h]

theorem Abs_nil : Abs [] [] := Abs_iff.mpr fun _ => rfl

/-- `Abs` reads the cells only through `Cells.get`. -/
theorem Abs.congr {cs cs' : Cells} {held : Held} (h : Abs cs held)
    (hg : ∀ c, cs'.get c = cs.get c) : Abs cs' held :=
  fun c => hg c ▸ h c

mutual
/-- No access of the tree conflicts with a guard still held at that point. -/
def okOne (held : Held) : Acc → Bool
  | .ev _ => true
  | .guard c m body => compatible held c m && okList ((c, m) :: held) body
def okList (held : Held) : List Acc → Bool
  | [] => true
  | a :: rest => okOne held a && okList held rest
end

mutual
/-- Refinement of `okOne`: the kind of the first refused borrow, if any. -/
def panicOne (held : Held) : Acc → Option PanicKind
  | .ev _ => none
  | .guard c m body =>
    if compatible held c m then panicList ((c, m) :: held) body
    else some (if m then .borrowMutError else .borrowError)
def panicList (held : Held) : List Acc → Option PanicKind
  | [] => none
  | a :: rest =>
    match panicOne held a with
    | some k => some k
    | none => panicList held rest
end

mutual
theorem panicOne_isSome (held : Held) (a : Acc) :
    (panicOne held a).isSome = !okOne held a := by
  cases a with
  | ev tag => rfl
  | guard c m body =>
    have ih := panicList_isSome ((c, m) :: held) body
    cases hc : compatible held c m <;> simp [panicOne, okOne, hc, ih]
theorem panicList_isSome (held : Held) (l : List Acc) :
    (panicList held l).isSome = !okList held l := by
  cases l with
  | nil => rfl
  | cons a rest =>
    rw [panicList, okList, Bool.not_and, ← panicOne_isSome held a, ← panicList_isSome held rest]
    cases panicOne held a <;> rfl
end

mutual
/-- Every cell state the execution goes through after its start, in order: the state right
after each granted borrow and the state right after each release.  (Defined by reference to
`execOne`/`execList` themselves, so these are the states of the real execution.) -/
def statesOne (cs : Cells) (tr : List String) : Acc → List Cells
  | .ev _ => []
  | .guard c m body =>
    match tryBorrow cs c m with
    | none => []
    | some cs' => cs' :: (statesList cs' tr body ++ [release (execList cs' tr body).cells c m])
def statesList (cs : Cells) (tr : List String) : List Acc → List Cells
  | [] => []
  | a :: rest =>
    statesOne cs tr a ++
      (match (execOne cs tr a).panic with
       | some _ => []
       | none => statesList (execOne cs tr a).cells (execOne cs tr a).trace rest)
end

/-- Big-step rule for `execOne`/`execList` together with the states they go through; every
induction over an execution goes through it. -/
theorem exec_rule {P : Cells → List String → Acc → XOut → List Cells → Prop}
    {Q : Cells → List String → List Acc → XOut → List Cells → Prop}
    (ev : ∀ cs tr tag, P cs tr (.ev tag) ⟨cs, tr ++ [tag], none⟩ [])
    (refused : ∀ cs tr c m body, tryBorrow cs c m = none →
      P cs tr (.guard c m body) ⟨cs, tr, some (if m then .borrowMutError else .borrowError)⟩ [])
    (granted : ∀ cs tr c m body cs' r ss, tryBorrow cs c m = some cs' → Q cs' tr body r ss →
      P cs tr (.guard c m body) ⟨release r.cells c m, r.trace, r.panic⟩
        (cs' :: (ss ++ [release r.cells c m])))
    (nil : ∀ cs tr, Q cs tr [] ⟨cs, tr, none⟩ [])
    (stop : ∀ cs tr a rest r ss k, P cs tr a r ss → r.panic = some k → Q cs tr (a :: rest) r ss)
    (next : ∀ cs tr a rest r ss r' ss', P cs tr a r ss → r.panic = none →
      Q r.cells r.trace rest r' ss' → Q cs tr (a :: rest) r' (ss ++ ss')) :
    (∀ cs tr a, P cs tr a (execOne cs tr a) (statesOne cs tr a)) ∧
    (∀ cs tr l, Q cs tr l (execList cs tr l) (statesList cs tr l)) := by
  apply execOne.mutual_induct
  · exact ev
  · intro cs tr c m body h
    simp only [execOne, statesOne, h]; exact refused cs tr c m body h
  · intro cs tr c m body cs' h ih
    simp only [execOne, statesOne, h]; exact granted _ _ _ _ _ _ _ _ h ih
  · exact nil
  · intro cs tr a rest; dsimp only; intro k hk ih
    simp only [execList, statesList, hk, List.append_nil]; exact stop _ _ _ _ _ _ k ih hk
  · intro cs tr a rest; dsimp only; intro hk ih ih'
    simp only [execList, statesList, hk]; exact next _ _ _ _ _ _ _ _ ih hk ih'

/-- States reachable under `held`: abstracted by an exclusive ghost list that extends it. -/
def Reach (held : Held) (s : Cells) : Prop := ∃ h', Abs s h' ∧ exclusive h' = true ∧ held <:+ h'

theorem Reach.of_cons {g : CellId × Bool} {held : Held} {s : Cells} :
    Reach (g :: held) s → Reach held s
  | ⟨h', x, y, z⟩ => ⟨h', x, y, (List.suffix_cons _ _).trans z⟩

/-- What an execution from `cs` with outcome `r` through the states `ss` keeps, where `p held`
is the panic predicted under `held`; each part under the weakest hypothesis it holds under.
Every counter is restored, on both outcomes: no hypothesis.  The panic is the predicted one:
under any ghost list that `cs` abstracts.  Every state on the way is reachable: when that list
is exclusive. -/
def ExecInv (cs : Cells) (r : XOut) (ss : List Cells) (p : Held → Option PanicKind) : Prop :=
  (∀ c, r.cells.get c = cs.get c) ∧
  ∀ held, Abs cs held → r.panic = p held ∧ (exclusive held = true → ∀ s ∈ ss, Reach held s)

theorem exec_inv :
    (∀ cs tr a, ExecInv cs (execOne cs tr a) (statesOne cs tr a) (panicOne · a)) ∧
    (∀ cs tr l, ExecInv cs (execList cs tr l) (statesList cs tr l) (panicList · l)) := by
  apply exec_rule (P := fun cs _ a r ss => ExecInv cs r ss (panicOne · a))
    (Q := fun cs _ l r ss => ExecInv cs r ss (panicList · l))
  · intro cs tr tag
    exact ⟨fun _ => rfl, fun _ _ => ⟨rfl, fun _ => nofun⟩⟩
  · intro cs tr c m body hb
    refine ⟨fun _ => rfl, fun held ha => ⟨?_, fun _ => nofun⟩⟩
    have hc : compatible held c m = false := by rw [← tryBorrow_isSome ha, hb]; rfl
    show _ = panicOne held _
    rw [panicOne, hc]; rfl
  · intro cs tr c m body cs' r ss hb ⟨hget, ih⟩
    have hrel := release_get hb hget
    refine ⟨hrel, fun held ha => ?_⟩
    have hc : compatible held c m = true := by rw [← tryBorrow_isSome ha, hb]; rfl
    have ha' := tryBorrow_abs ha hb
    obtain ⟨h2, h3⟩ := ih _ ha'
    refine ⟨show _ = panicOne held _ by rw [panicOne, if_pos hc]; exact h2, fun he => ?_⟩
    have he' : exclusive ((c, m) :: held) = true := Bool.and_eq_true_iff.mpr ⟨hc, he⟩
    exact List.forall_mem_cons.mpr ⟨⟨_, ha', he', List.suffix_cons _ _⟩,
      List.forall_mem_append.mpr ⟨fun s hs => (h3 he' s hs).of_cons,
        List.forall_mem_singleton.mpr ⟨held, ha.congr hrel, he, List.suffix_refl _⟩⟩⟩
  · intro cs tr
    exact ⟨fun _ => rfl, fun _ _ => ⟨rfl, fun _ => nofun⟩⟩
  · intro cs tr a rest r ss k ⟨h1, ih⟩ hk
    refine ⟨h1, fun held ha => ?_⟩
    obtain ⟨h2, h3⟩ := ih held ha
    exact ⟨by simp only [panicList, ← h2, hk], h3⟩
  · intro cs tr a rest r ss r' ss' ⟨h1, ih⟩ hk ⟨h1', ih'⟩
    refine ⟨fun c => (h1' c).trans (h1 c), fun held ha => ?_⟩
    obtain ⟨h2, h3⟩ := ih held ha
    obtain ⟨h2', h3'⟩ := ih' held (ha.congr h1)
    exact ⟨by simp only [panicList, ← h2, hk, h2'],
      fun he s hs => (List.mem_append.mp hs).elim (h3 he s) (h3' he s)⟩

theorem exec_restores (cs : Cells) (tr : List String) (a : Acc) (c : CellId) :
    (execOne cs tr a).cells.get c = cs.get c :=
  (exec_inv.1 cs tr a).1 c

theorem execList_restores (cs : Cells) (tr : List String) (l : List Acc) (c : CellId) :
    (execList cs tr l).cells.get c = cs.get c :=
  (exec_inv.2 cs tr l).1 c

theorem exec_cells_restored {cs : Cells} {held : Held} (tr : List String) (a : Acc)
    (ha : Abs cs held) (he : exclusive held = true) (c : CellId) :
    (execOne cs tr a).cells.get c = cs.get c :=
  exec_restores cs tr a c

theorem execList_cells_restored {cs : Cells} {held : Held} (tr : List String) (l : List Acc)
    (ha : Abs cs held) (he : exclusive held = true) (c : CellId) :
    (execList cs tr l).cells.get c = cs.get c :=
  execList_restores cs tr l c

/-- C11 (release): on BOTH outcomes (normal exit and panic/unwind) every guard acquired during
the program has been released; the outstanding guards are exactly those held before. -/
theorem exec_released {cs : Cells} {held : Held} (tr : List String) (a : Acc)
    (ha : Abs cs held) (he : exclusive held = true) :
    Abs (execOne cs tr a).cells held :=
  ha.congr (exec_restores cs tr a)

theorem exec_panic_eq {cs : Cells} {held : Held} (tr : List String) (a : Acc)
    (ha : Abs cs held) : (execOne cs tr a).panic = panicOne held a :=
  ((exec_inv.1 cs tr a).2 held ha).1

theorem execList_panic_eq {cs : Cells} {held : Held} (tr : List String) (l : List Acc)
    (ha : Abs cs held) : (execList cs tr l).panic = panicList held l :=
  ((exec_inv.2 cs tr l).2 held ha).1

theorem execList_panics_iff {cs : Cells} {held : Held} (tr : List String) (l : List Acc)
    (ha : Abs cs held) :
    (execList cs tr l).panic.isSome = true ↔ okList held l = false := by
  rw [execList_panic_eq tr l ha, panicList_isSome, Bool.not_eq_true']

/-- C11 (conflict): the program panics iff some access is incompatible with a guard still
held at that point. -/
theorem exec_panics_iff {cs : Cells} {held : Held} (tr : List String) (a : Acc)
    (ha : Abs cs held) (he : exclusive held = true) :
    (execOne cs tr a).panic.isSome = true ↔ okOne held a = false := by
  rw [exec_panic_eq tr a ha, panicOne_isSome, Bool.not_eq_true']

theorem trace_prefix_both :
    (∀ cs tr a, tr <+: (execOne cs tr a).trace) ∧ (∀ cs tr l, tr <+: (execList cs tr l).trace) :=
  exec_rule (P := fun _ tr _ r _ => tr <+: r.trace) (Q := fun _ tr _ r _ => tr <+: r.trace)
    (fun _ _ _ => List.prefix_append _ _) (fun _ _ _ _ _ _ => List.prefix_refl _)
    (fun _ _ _ _ _ _ _ _ _ ih => ih) (fun _ _ => List.prefix_refl _)
    (fun _ _ _ _ _ _ _ ih _ => ih) (fun _ _ _ _ _ _ _ _ ih _ ih' => ih.trans ih')

theorem trace_prefix (cs : Cells) (tr : List String) (a : Acc) :
    tr <+: (execOne cs tr a).trace :=
  trace_prefix_both.1 cs tr a

theorem traceList_prefix (cs : Cells) (tr : List String) (l : List Acc) :
    tr <+: (execList cs tr l).trace :=
  trace_prefix_both.2 cs tr l

/-- A compatible guard is granted: it never panics itself, only its body may. -/
theorem guard_granted {cs : Cells} {held : Held} (tr : List String) {c : CellId} {m : Bool}
    (body : List Acc) (ha : Abs cs held) (hc : compatible held c m = true) :
    (tryBorrow cs c m).isSome = true ∧
    (execOne cs tr (.guard c m body)).panic = panicList ((c, m) :: held) body := by
  refine ⟨(tryBorrow_isSome ha c m).trans hc, ?_⟩
  rw [exec_panic_eq tr _ ha, panicOne, if_pos hc]

theorem panicList_eq_none {held : Held} {l : List Acc} (h : okList held l = true) :
    panicList held l = none := by
  have := panicList_isSome held l
  rwa [h, Bool.not_true, Option.isSome_eq_false_iff, Option.isNone_iff_eq_none] at this

theorem compatible_of_free {held : Held} {c : CellId} {m : Bool} (hfree : ∀ g ∈ held, g.1 ≠ c) :
    compatible held c m = true :=
  compatible_eq_true_iff.mpr fun g hg e => absurd e (hfree g hg)

theorem compatible_of_shared {held : Held} {c : CellId}
    (hshared : ∀ g ∈ held, g.1 = c → g.2 = false) : compatible held c false = true :=
  compatible_eq_true_iff.mpr fun g hg e => ⟨rfl, hshared g hg e⟩

/-- A guard on a cell on which nothing is held (a different column or a different archetype is
a different `CellId`), around a conflict-free body: no panic. -/
theorem guard_other_cell_no_panic {cs : Cells} {held : Held} (tr : List String) (c : CellId)
    (m : Bool) (body : List Acc) (ha : Abs cs held) (he : exclusive held = true)
    (hfree : ∀ g ∈ held, g.1 ≠ c) (hbody : okList ((c, m) :: held) body = true) :
    (execOne cs tr (.guard c m body)).panic = none := by
  rw [(guard_granted tr body ha (compatible_of_free hfree)).2, panicList_eq_none hbody]

/-- A shared guard while only shared guards are held on that cell, around a conflict-free
body: no panic. -/
theorem shared_shared_no_panic {cs : Cells} {held : Held} (tr : List String) (c : CellId)
    (body : List Acc) (ha : Abs cs held) (he : exclusive held = true)
    (hshared : ∀ g ∈ held, g.1 = c → g.2 = false)
    (hbody : okList ((c, false) :: held) body = true) :
    (execOne cs tr (.guard c false body)).panic = none := by
  rw [(guard_granted tr body ha (compatible_of_shared hshared)).2, panicList_eq_none hbody]

/-- A guard on a cell with an outstanding guard where one of the two is mutable is refused:
the access panics (`BorrowMutError` for a mutable access, `BorrowError` for a shared one),
nothing is acquired, the body does not run. -/
theorem mut_conflicts {cs : Cells} {held : Held} (tr : List String) (c : CellId) (m : Bool)
    (body : List Acc) (ha : Abs cs held) (g : CellId × Bool)
    (hg : g ∈ held) (hgc : g.1 = c) (hm : (m || g.2) = true) :
    tryBorrow cs c m = none ∧
    execOne cs tr (.guard c m body) =
      ⟨cs, tr, some (if m then PanicKind.borrowMutError else PanicKind.borrowError)⟩ := by
  have hb : tryBorrow cs c m = none := by
    rw [← Option.isNone_iff_eq_none, ← Option.isSome_eq_false_iff, tryBorrow_isSome ha]
    exact compatible_eq_false_iff.mpr ⟨g, hg, hgc, hm⟩
  exact ⟨hb, by simp [execOne, hb]⟩

/-- A borrow ends when its guard ends (also by unwinding), so a later access is never
spuriously refused: whatever ran before (panicking or not), a program run afterwards
panics exactly when it would have panicked had it run first. -/
theorem later_access_not_refused {cs : Cells} {held : Held} (tr tr' tr'' : List String)
    (l1 l2 : List Acc) (ha : Abs cs held) (he : exclusive held = true) :
    (execList (execList cs tr l1).cells tr' l2).panic = (execList cs tr'' l2).panic := by
  rw [execList_panic_eq tr' l2 (ha.congr (execList_restores cs tr l1)),
    execList_panic_eq tr'' l2 ha]

theorem exclusive_not_writer_and_reader {held : Held} (he : exclusive held = true) (c : CellId) :
    ¬ ((ghostCell held c).writer = true ∧ (ghostCell held c).readers > 0) := by
  induction held with
  | nil => simp [ghostCell]
  | cons g rest ih =>
    obtain ⟨c0, m0⟩ := g
    obtain ⟨hcomp, hrest⟩ := Bool.and_eq_true_iff.mp he
    by_cases hc : c0 = c
    · subst hc
      obtain ⟨hw, hr⟩ := compatible_iff.mp hcomp
      rw [ghostCell_cons_self]
      cases m0
      · simp [hw]
      · simp [hr rfl]
    · rw [ghostCell_cons_ne hc]
      exact ih hrest

/-- C11 (no alias), on the counters: in every state that abstracts an exclusive ghost list no
cell is at once mutably borrowed and shared-borrowed. -/
theorem never_writer_and_reader {cs : Cells} {held : Held}
    (ha : Abs cs held) (he : exclusive held = true) (c : CellId) :
    ¬ ((cs.get c).writer = true ∧ (cs.get c).readers > 0) := by
  rw [Abs_iff.mp ha c]
  exact exclusive_not_writer_and_reader he c

theorem at_most_one_writer {held : Held} (he : exclusive held = true) (c : CellId) :
    (held.filter (fun g => g.1 == c && g.2)).length ≤ 1 := by
  induction held with
  | nil => exact Nat.zero_le 1
  | cons g rest ih =>
    obtain ⟨c0, m0⟩ := g
    obtain ⟨hcomp, hrest⟩ := Bool.and_eq_true_iff.mp he
    rw [List.filter_cons]
    split
    · next h =>
      -- a mutable guard on `c` in front: compatibility left none on `c` behind it
      simp only [Bool.and_eq_true, beq_iff_eq] at h
      obtain ⟨rfl, rfl⟩ := h
      have h0 : rest.filter (fun g => g.1 == c0 && g.2) = [] :=
        List.filter_eq_nil_iff.mpr fun g hg hp => nomatch
          (compatible_eq_true_iff.mp hcomp g hg (eq_of_beq (Bool.and_eq_true_iff.mp hp).1)).1
      rw [h0]
      exact Nat.le_refl 1
    · exact ih hrest

theorem exclusive_iff_pairwise {held : Held} :
    exclusive held = true ↔
      held.Pairwise (fun g g' => g.1 = g'.1 → g.2 = false ∧ g'.2 = false) := by
  induction held with
  | nil => simp [exclusive]
  | cons g rest ih =>
    obtain ⟨c, m⟩ := g
    simp only [exclusive, Bool.and_eq_true, List.pairwise_cons, ih, compatible_eq_true_iff]
    exact and_congr_left' (forall₂_congr fun g' _ => ⟨fun h e => h e.symm, fun h e => h e.symm⟩)

theorem Reach.no_alias {held : Held} {s : Cells} :
    Reach held s → ∀ c, ¬ ((s.get c).writer = true ∧ (s.get c).readers > 0)
  | ⟨_, ha, he, _⟩ => never_writer_and_reader ha he

theorem exec_exclusive {cs : Cells} {held : Held} (tr : List String) (a : Acc)
    (ha : Abs cs held) (he : exclusive held = true) :
    ∀ s ∈ statesOne cs tr a, ∃ h', Abs s h' ∧ exclusive h' = true ∧ held <:+ h' :=
  ((exec_inv.1 cs tr a).2 held ha).2 he

theorem execList_exclusive {cs : Cells} {held : Held} (tr : List String) (l : List Acc)
    (ha : Abs cs held) (he : exclusive held = true) :
    ∀ s ∈ statesList cs tr l, ∃ h', Abs s h' ∧ exclusive h' = true ∧ held <:+ h' :=
  ((exec_inv.2 cs tr l).2 held ha).2 he

/-- C11 (no alias): in no state reached during the execution of any tree is a cell at once
mutably borrowed and shared-borrowed. -/
theorem exec_no_alias {cs : Cells} {held : Held} (tr : List String) (a : Acc)
    (ha : Abs cs held) (he : exclusive held = true) :
    ∀ s ∈ statesOne cs tr a, ∀ c, ¬ ((s.get c).writer = true ∧ (s.get c).readers > 0) :=
  fun s hs => Reach.no_alias (exec_exclusive tr a ha he s hs)

/-- Sanity link between `statesOne`/`statesList` and `execOne`/`execList`: the last recorded
state is the final state. -/
theorem states_last_both :
    (∀ cs tr a, (statesOne cs tr a).getLast?.getD cs = (execOne cs tr a).cells) ∧
    (∀ cs tr l, (statesList cs tr l).getLast?.getD cs = (execList cs tr l).cells) := by
  apply exec_rule (P := fun cs _ _ r ss => ss.getLast?.getD cs = r.cells)
    (Q := fun cs _ _ r ss => ss.getLast?.getD cs = r.cells)
  · intros; rfl
  · intros; rfl
  · intro cs tr c m body cs' r ss _ _
    rw [← List.cons_append, List.getLast?_append]; rfl
  · intros; rfl
  · intro _ _ _ _ _ _ _ ih _; exact ih
  · intro cs tr a rest r ss r' ss' ih _ ih'
    rw [List.getLast?_append, ← ih', ← ih]
    cases ss'.getLast? <;> rfl

theorem statesList_last (cs : Cells) (tr : List String) (l : List Acc) :
    (statesList cs tr l).getLast?.getD cs = (execList cs tr l).cells :=
  states_last_both.2 cs tr l

/-- The guards `gs`, acquired left to right on top of `held`, are each compatible with `held`
and with the ones before them. -/
def compatAll (held : Held) : List (CellId × Bool) → Bool
  | [] => true
  | (c, m) :: gs => compatible held c m && compatAll ((c, m) :: held) gs

/-- The kind of the first refused guard of `gs`, if any. -/
def refusedKind (held : Held) : List (CellId × Bool) → Option PanicKind
  | [] => none
  | (c, m) :: gs =>
    if compatible held c m then refusedKind ((c, m) :: held) gs
    else some (if m then .borrowMutError else .borrowError)

theorem refusedKind_isSome (held : Held) (gs : List (CellId × Bool)) :
    (refusedKind held gs).isSome = !compatAll held gs := by
  induction gs generalizing held with
  | nil => simp [refusedKind, compatAll]
  | cons g gs ih =>
    obtain ⟨c, m⟩ := g
    cases hc : compatible held c m <;> simp [refusedKind, compatAll, hc, ih]

/-- `compatAll` is exactly what keeps the ghost list exclusive. -/
theorem exclusive_reverse_append (held : Held) (gs : List (CellId × Bool)) :
    exclusive (gs.reverse ++ held) = (compatAll held gs && exclusive held) := by
  induction gs generalizing held with
  | nil => rfl
  | cons g gs ih =>
    obtain ⟨c, m⟩ := g
    rw [List.reverse_cons, List.append_assoc, List.singleton_append, ih, compatAll, exclusive,
      Bool.and_assoc, Bool.and_left_comm]

theorem okList_append (held : Held) (l1 l2 : List Acc) :
    okList held (l1 ++ l2) = (okList held l1 && okList held l2) := by
  induction l1 with
  | nil => simp [okList]
  | cons a l1 ih => simp [okList, ih, Bool.and_assoc]

theorem panicList_append (held : Held) (l1 l2 : List Acc) :
    panicList held (l1 ++ l2) = (panicList held l1).or (panicList held l2) := by
  induction l1 with
  | nil => simp [panicList]
  | cons a l1 ih =>
    cases hp : panicOne held a <;> simp [panicList, hp, ih]

theorem panicList_singleton (held : Held) (a : Acc) : panicList held [a] = panicOne held a := by
  rw [panicList, panicList]; cases panicOne held a <;> rfl

theorem panicList_nest (held : Held) (gs : List (CellId × Bool)) (body : List Acc) :
    panicList held (nest gs body) =
      (refusedKind held gs).or (panicList (gs.reverse ++ held) body) := by
  induction gs generalizing held with
  | nil => rfl
  | cons g gs ih =>
    obtain ⟨c, m⟩ := g
    rw [List.reverse_cons, List.append_assoc, List.singleton_append, nest, panicList_singleton,
      panicOne, refusedKind, ih]
    cases compatible held c m <;> rfl

theorem okList_nest (held : Held) (gs : List (CellId × Bool)) (body : List Acc) :
    okList held (nest gs body) = (compatAll held gs && okList (gs.reverse ++ held) body) := by
  rw [← Bool.not_not (okList held _), ← panicList_isSome, panicList_nest, Option.isSome_or,
    refusedKind_isSome, panicList_isSome, Bool.not_or, Bool.not_not, Bool.not_not]

theorem run_panic_eq (nodes : List Node) :
    (run nodes).panic = panicList [] (compileList nodes) :=
  execList_panic_eq [] (compileList nodes) Abs_nil

/-- After the top-level run, on both outcomes, every cell is unborrowed: a later access is
never spuriously refused. -/
theorem run_released (nodes : List Node) (c : CellId) :
    (run nodes).cells.get c = ⟨0, false⟩ :=
  execList_restores [] [] (compileList nodes) c

/-! ### `Cells.idle` (needs that `put` keeps the keys duplicate-free) -/

def Cells.NodupKeys (cs : Cells) : Prop := (cs.map (·.1)).Nodup

theorem Cells.nodupKeys_put {cs : Cells} (h : cs.NodupKeys) (c : CellId) (x : Cell) :
    (cs.put c x).NodupKeys := by
  refine List.nodup_cons.mpr ⟨fun hm => ?_, h.sublist (List.filter_sublist.map _)⟩
  obtain ⟨kv, hkv, hc⟩ := List.mem_map.mp hm
  exact bne_iff_ne.mp (List.mem_filter.mp hkv).2 hc

theorem nodupKeys_tryBorrow {cs cs' : Cells} {c : CellId} {m : Bool} (h : cs.NodupKeys)
    (hb : tryBorrow cs c m = some cs') : cs'.NodupKeys :=
  (tryBorrow_eq_some_iff.mp hb).2 ▸ Cells.nodupKeys_put h _ _

theorem nodupKeys_release {cs : Cells} (h : cs.NodupKeys) (c : CellId) (m : Bool) :
    (release cs c m).NodupKeys := by
  rw [release_eq]
  exact Cells.nodupKeys_put h _ _

theorem nodupKeys_both :
    (∀ cs tr a, cs.NodupKeys → (execOne cs tr a).cells.NodupKeys) ∧
    (∀ cs tr l, cs.NodupKeys → (execList cs tr l).cells.NodupKeys) :=
  exec_rule (P := fun cs _ _ r _ => cs.NodupKeys → r.cells.NodupKeys)
    (Q := fun cs _ _ r _ => cs.NodupKeys → r.cells.NodupKeys)
    (fun _ _ _ h => h) (fun _ _ _ _ _ _ h => h)
    (fun _ _ c m _ _ _ _ hb ih h => nodupKeys_release (ih (nodupKeys_tryBorrow h hb)) c m)
    (fun _ _ h => h) (fun _ _ _ _ _ _ _ ih _ => ih) (fun _ _ _ _ _ _ _ _ ih _ ih' h => ih' (ih h))

theorem execOne_nodupKeys (cs : Cells) (tr : List String) (a : Acc) (h : cs.NodupKeys) :
    (execOne cs tr a).cells.NodupKeys :=
  nodupKeys_both.1 cs tr a h

theorem Cells.get_of_mem {cs : Cells} (h : cs.NodupKeys) {kv : CellId × Cell} (hm : kv ∈ cs) :
    cs.get kv.1 = kv.2 := by
  induction cs with
  | nil => cases hm
  | cons kv0 t ih =>
    obtain ⟨h0, ht⟩ := List.nodup_cons.mp h
    rcases List.mem_cons.mp hm with rfl | hm
    · simp [Cells.get]
    · have hne : (kv0.1 == kv.1) = false :=
        beq_false_of_ne fun e => h0 (List.mem_map.mpr ⟨kv, hm, e.symm⟩)
      rw [← ih ht hm]
      simp only [Cells.get, List.find?_cons, hne]

theorem Cells.idle_of_get {cs : Cells} (h : cs.NodupKeys)
    (hg : ∀ c, cs.get c = ⟨0, false⟩) : cs.idle = true :=
  List.all_eq_true.mpr fun kv hkv => by
    rw [← Cells.get_of_mem h hkv, hg]
    rfl

theorem compatible_cons_shared (held : Held) (c c' : CellId) :
    compatible ((c, false) :: held) c' false = compatible held c' false := by
  simp [compatible_cons]

theorem refusedKind_shared (held : Held) (cols : List CellId) :
    refusedKind held (cols.map (fun c => (c, false))) =
      if cols.all (fun c => compatible held c false) then none else some .borrowError := by
  induction cols generalizing held with
  | nil => rfl
  | cons c cols ih =>
    rw [List.map_cons, refusedKind, ih, List.all_cons]
    simp only [compatible_cons_shared]
    cases compatible held c false <;> rfl

theorem panicList_clone (held : Held) (archCols : List (List CellId)) :
    panicList held (compile (.cl archCols)) =
      if archCols.flatten.all (fun c => compatible held c false) then none
      else some .borrowError := by
  have hev : panicList held [Acc.ev "cl+"] = none := rfl
  rw [compile, panicList_append, hev, Option.or_none]
  induction archCols with
  | nil => rfl
  | cons cols rest ih =>
    rw [List.flatMap_cons, panicList_append, ih, panicList_nest, refusedKind_shared,
      List.flatten_cons, List.all_append]
    cases cols.all (fun c => compatible held c false) <;> rfl

theorem all_compatible_shared (held : Held) (cols : List CellId) :
    cols.all (fun c => compatible held c false) =
      !held.any (fun g => g.2 && cols.contains g.1) := by
  rw [Bool.eq_iff_iff]
  simp only [List.all_eq_true, compatible_eq_true_iff, true_and, Bool.not_eq_true',
    List.any_eq_false, Bool.and_eq_true, List.contains_iff_mem, not_and]
  exact ⟨fun h g hg h2 hm => Bool.false_ne_true ((h g.1 hm g hg rfl).symm.trans h2),
    fun h c hc g hg hgc => Bool.eq_false_iff.mpr fun h2 => h g hg h2 (hgc ▸ hc)⟩

/-- `clone` panics exactly while some listed column is mutably borrowed, and the panic is a
`BorrowError`. -/
theorem clone_panic_eq {cs : Cells} {held : Held} (tr : List String)
    (archCols : List (List CellId)) (ha : Abs cs held) :
    (execList cs tr (compile (.cl archCols))).panic =
      if held.any (fun g => g.2 && archCols.flatten.contains g.1) then some .borrowError
      else none := by
  rw [execList_panic_eq tr _ ha, panicList_clone, all_compatible_shared]
  cases held.any (fun g => g.2 && archCols.flatten.contains g.1) <;> simp

/-- On the counters: `clone` panics iff the `writer` flag of a listed cell is set. -/
theorem clone_panics_iff_writer_flag {cs : Cells} {held : Held} (tr : List String)
    (archCols : List (List CellId)) (ha : Abs cs held) (he : exclusive held = true) :
    (execList cs tr (compile (.cl archCols))).panic.isSome = true ↔
      ∃ c ∈ archCols.flatten, (cs.get c).writer = true := by
  rw [clone_panic_eq tr archCols ha, Option.isSome_ite]
  simp only [(ha _).2, List.any_eq_true, Bool.and_eq_true, List.contains_iff_mem, beq_iff_eq]
  exact ⟨fun ⟨g, hg, h2, hm⟩ => ⟨g.1, hm, g, hg, rfl, h2⟩,
    fun ⟨_, hm, g, hg, hc, h2⟩ => ⟨g, hg, h2, hc ▸ hm⟩⟩

theorem clone_top_level_ok (archCols : List (List CellId)) :
    (run [.cl archCols]).panic = none := by
  rw [run, compileList, compileList, List.append_nil]
  exact clone_panic_eq [] archCols Abs_nil

/-- `clone` inside the closure of a mutable slice borrow of a cloned column panics. -/
theorem clone_under_mut_slice_panics (a col : Nat) (archCols : List (List CellId))
    (rest : List Node) (h : (a, col) ∈ archCols.flatten) :
    (run [.bs a col true (.cl archCols :: rest)]).panic = some .borrowError := by
  have hcl : panicList [((a, col), true)] (compile (.cl archCols)) = some .borrowError := by
    rw [panicList_clone, all_compatible_shared, List.any_cons, List.contains_iff_mem.mpr h]; rfl
  rw [run_panic_eq]
  simp only [compileList, compile.eq_1, List.append_nil, panicList, panicOne, compatible_nil,
    if_true]
  rw [panicList_append, hcl]
  rfl

/-- The explicit `borrow_slice(_mut)` always acquires its guard: there is no "archetype is
empty" case in which it is skipped. -/
theorem bs_empty_archetype_still_borrows (a col : Nat) (m : Bool) (body : List Node) :
    compile (.bs a col m body) = [Acc.guard (a, col) m (Acc.ev "bs+" :: compileList body)] := by
  simp [compile]

/-- ... so a conflicting nested `borrow_slice*` of the same column panics unconditionally. -/
theorem bs_nested_same_column_panics (a col : Nat) (m1 m2 : Bool) (body : List Node)
    (hm : (m2 || m1) = true) :
    (run [.bs a col m1 [.bs a col m2 body]]).panic =
      some (if m2 then .borrowMutError else .borrowError) := by
  rw [run_panic_eq]
  have hc : compatible [((a, col), m1)] (a, col) m2 = false :=
    compatible_eq_false_iff.mpr ⟨((a, col), m1), by simp, rfl, hm⟩
  simp [compileList, compile, panicList, panicOne, compatible_nil, hc]

/-- `ecs_iter_borrow!` over no entity (no archetype matched, or all matched ones empty)
acquires nothing. -/
theorem ib_empty_acquires_nothing (body : List Node) : compile (.ib [] body) = [] := by
  simp [compile]

theorem bc_not_found_acquires_nothing (a col : Nat) (m : Bool) (body : List Node) :
    compile (.bc a col m false body) = [Acc.ev "bc-"] := by
  simp [compile]

theorem fb_not_found_acquires_nothing (body : List Node) :
    compile (.fb none body) = [Acc.ev "fb-"] := by
  simp [compile]

/-- `ecs_find_borrow!` with bound guards `gs`: conflict-free iff the guards are compatible with
the held ones and with each other (in order) and the closure body is conflict-free under them. -/
theorem fb_panics_iff {cs : Cells} {held : Held} (tr : List String)
    (gs : List (CellId × Bool)) (body : List Node) (ha : Abs cs held) :
    (execList cs tr (compile (.fb (some gs) body))).panic.isSome = true ↔
      (compatAll held gs &&
        okList (gs.reverse ++ held) (Acc.ev "fb+" :: compileList body)) = false := by
  rw [execList_panics_iff tr _ ha]
  simp only [compile, okList_nest]

/-- Two guards on one cell, one of them mutable, among the parameters of one
`ecs_find_borrow!` closure: panics (from any consistent state, in particular from idle). -/
theorem fb_two_guards_conflict {cs : Cells} {held : Held} (tr : List String)
    (gs : List (CellId × Bool)) (body : List Node) (ha : Abs cs held)
    (he : exclusive held = true) (c : CellId) (m1 m2 : Bool)
    (hsub : List.Sublist [(c, m1), (c, m2)] gs) (hm : (m1 || m2) = true) :
    (execList cs tr (compile (.fb (some gs) body))).panic.isSome = true := by
  rw [fb_panics_iff tr gs body ha, Bool.and_eq_false_iff]
  refine Or.inl (Bool.eq_false_iff.mpr fun hca => ?_)
  -- were every guard of `gs` granted, the ghost list would still be exclusive, and two guards
  -- of `gs` on one cell would both be shared
  have hex : exclusive (gs.reverse ++ held) = true := by
    rw [exclusive_reverse_append, hca, he]; rfl
  have hp := List.pairwise_reverse.mp (List.pairwise_append.mp (exclusive_iff_pairwise.mp hex)).1
  obtain ⟨rfl, rfl⟩ : m2 = false ∧ m1 = false :=
    (List.pairwise_cons.mp (hp.sublist hsub)).1 _ (List.mem_singleton_self _) rfl
  cases hm

theorem find_same_column_twice_mut (c : CellId) (body : List Node) :
    (run [.fb (some [(c, true), (c, false)]) body]).panic = some .borrowError := by
  rw [run_panic_eq]
  simp [compileList, compile, nest, panicList, panicOne, compatible]

theorem find_same_column_shared_then_mut (c : CellId) (body : List Node) :
    (run [.fb (some [(c, false), (c, true)]) body]).panic = some .borrowMutError := by
  rw [run_panic_eq]
  simp [compileList, compile, nest, panicList, panicOne, compatible]

theorem find_same_column_twice_shared_ok (c : CellId) :
    (run [.fb (some [(c, false), (c, false)]) []]).panic = none := by
  rw [run_panic_eq]
  simp [compileList, compile, nest, panicList, panicOne, compatible]

namespace Examples

/-- A non-idle state satisfying the hypotheses `Abs cs held` / `exclusive held` of the headline
theorems: two shared guards on cell (0,0) and a mutable guard on cell (1,0) outstanding. -/
def exCells : Cells := [((1, 0), ⟨0, true⟩), ((0, 0), ⟨2, false⟩)]
def exHeld : Held := [((1, 0), true), ((0, 0), false), ((0, 0), false)]

example : exclusive exHeld = true := by decide +kernel

theorem exAbs : Abs exCells exHeld := by
  have h1 : Abs [((0, 0), ⟨1, false⟩)] [((0, 0), false)] :=
    tryBorrow_abs (c := (0, 0)) (m := false) Abs_nil (by decide +kernel)
  have h2 : Abs [((0, 0), ⟨2, false⟩)] [((0, 0), false), ((0, 0), false)] :=
    tryBorrow_abs (c := (0, 0)) (m := false) h1 (by decide +kernel)
  exact tryBorrow_abs (c := (1, 0)) (m := true) h2 (by decide +kernel)

-- the single-guard corollaries instantiated in that state
example : (execOne exCells [] (.guard (0, 0) false [.ev "r"])).panic = none :=
  shared_shared_no_panic [] (0, 0) [.ev "r"] exAbs (by decide +kernel) (by decide +kernel)
    (by decide +kernel)
example : (execOne exCells [] (.guard (0, 1) true [.ev "w"])).panic = none :=
  guard_other_cell_no_panic [] (0, 1) true [.ev "w"] exAbs (by decide +kernel) (by decide +kernel)
    (by decide +kernel)
example : execOne exCells [] (.guard (0, 0) true [.ev "w"]) =
    ⟨exCells, [], some .borrowMutError⟩ :=
  (mut_conflicts [] (0, 0) true [.ev "w"] exAbs ((0, 0), false) (by decide +kernel) rfl rfl).2
example : execOne exCells [] (.guard (1, 0) false [.ev "r"]) =
    ⟨exCells, [], some .borrowError⟩ :=
  (mut_conflicts [] (1, 0) false [.ev "r"] exAbs ((1, 0), true) (by decide +kernel) rfl rfl).2
example : (execList exCells [] (compile (.cl [[(0, 0)], [(1, 0), (1, 1)]]))).panic =
    some .borrowError := by
  rw [clone_panic_eq [] _ exAbs]; decide +kernel
example : (execList exCells [] (compile (.cl [[(0, 0)], [(1, 1)]]))).panic = none := by
  rw [clone_panic_eq [] _ exAbs]; decide +kernel

/-- Three levels: shared (0,0) > mutable (0,1) > shared (0,0) again; then a sibling. -/
def ex3 : Acc :=
  .guard (0, 0) false [.guard (0, 1) true [.guard (0, 0) false [.ev "in"]], .ev "after"]

example : okOne [] ex3 = true := by decide +kernel
example : (execOne [] [] ex3).panic = none := by decide +kernel
example : (execOne [] [] ex3).trace = ["in", "after"] := by decide +kernel
example : (execOne [] [] ex3).cells.idle = true := by decide +kernel
example : (statesOne [] [] ex3).length = 6 := by decide +kernel
example : (statesOne [] [] ex3).map (fun s => (s.get (0, 0), s.get (0, 1))) =
    [(⟨1, false⟩, ⟨0, false⟩), (⟨1, false⟩, ⟨0, true⟩), (⟨2, false⟩, ⟨0, true⟩),
     (⟨1, false⟩, ⟨0, true⟩), (⟨1, false⟩, ⟨0, false⟩), (⟨0, false⟩, ⟨0, false⟩)] := by
  decide +kernel

/-- `mut` inside `shared` on the same cell: `BorrowMutError`, cells restored by unwinding,
nothing after the refused access runs. -/
def exConflict : Acc :=
  .guard (0, 0) false [.ev "a", .guard (0, 1) true [.guard (0, 0) true [.ev "never"]], .ev "never2"]

example : okOne [] exConflict = false := by decide +kernel
example : (execOne [] [] exConflict).panic = some .borrowMutError := by decide +kernel
example : (execOne [] [] exConflict).trace = ["a"] := by decide +kernel
example : (execOne [] [] exConflict).cells.idle = true := by decide +kernel
example : (execOne [] [] exConflict).cells.get (0, 0) = ⟨0, false⟩ ∧
    (execOne [] [] exConflict).cells.get (0, 1) = ⟨0, false⟩ := by decide +kernel

/-- `shared` inside `mut` on the same cell: `BorrowError`. -/
example : (execOne [] [] (.guard (2, 0) true [.guard (2, 0) false [.ev "never"]])).panic =
    some .borrowError := by decide +kernel

/-- Sibling accesses after a released mutable guard succeed (mutable, shared, mutable). -/
def exSiblings : List Acc :=
  [.guard (0, 0) true [.ev "w1"], .guard (0, 0) false [.guard (0, 0) false [.ev "r"]],
   .guard (0, 0) true [.ev "w2"]]

example : okList [] exSiblings = true := by decide +kernel
example : (execList [] [] exSiblings).panic = none := by decide +kernel
example : (execList [] [] exSiblings).trace = ["w1", "r", "w2"] := by decide +kernel
example : (execList [] [] exSiblings).cells.idle = true := by decide +kernel

/-- ... and also after a panic was unwound (the driver continues with the same cells). -/
example : (execList (execOne [] [] exConflict).cells [] exSiblings).panic = none := by
  decide +kernel

/-- High level: iterating mutably over two entities of one archetype (guards are re-acquired
per closure call), cloning inside a shared borrow, cloning inside a mutable borrow. -/
example : (run [.ib [[((0, 0), true), ((0, 1), false)], [((0, 0), true), ((0, 1), false)]] []]).panic
    = none := by decide +kernel
example : (run [.bs 0 0 false [.cl [[(0, 0), (0, 1)]]]]).panic = none := by decide +kernel
example : (run [.bs 0 0 true [.cl [[(0, 0), (0, 1)]]]]).panic = some .borrowError := by
  decide +kernel
example : (run [.bs 0 0 true [.cl [[(0, 0), (0, 1)]]]]).trace = ["bs+"] := by decide +kernel
example : (run [.bs 0 0 true [.bs 1 0 true [.bc 0 1 true true []]], .bs 0 0 true []]).panic
    = none := by decide +kernel
example : (run [.ib [[((0, 0), true)]] [.fb (some [((0, 0), false)]) []]]).panic
    = some .borrowError := by decide +kernel

end Examples

#print axioms exec_restores
#print axioms execList_restores
#print axioms exec_released
#print axioms exec_cells_restored
#print axioms exec_panic_eq
#print axioms exec_panics_iff
#print axioms execList_panics_iff
#print axioms trace_prefix
#print axioms traceList_prefix
#print axioms mut_conflicts
#print axioms later_access_not_refused
#print axioms never_writer_and_reader
#print axioms at_most_one_writer
#print axioms exclusive_iff_pairwise
#print axioms exec_exclusive
#print axioms execList_exclusive
#print axioms exec_no_alias
#print axioms states_last_both
#print axioms okList_nest
#print axioms panicList_nest
#print axioms run_released
#print axioms clone_panic_eq
#print axioms clone_panics_iff_writer_flag
#print axioms clone_under_mut_slice_panics
#print axioms bs_empty_archetype_still_borrows
#print axioms bs_nested_same_column_panics
#print axioms ib_empty_acquires_nothing
#print axioms fb_panics_iff
#print axioms fb_two_guards_conflict
#print axioms find_same_column_twice_mut
#print axioms find_same_column_shared_then_mut

end Gecs.Borrow
