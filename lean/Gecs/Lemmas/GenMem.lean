/-
`DataPtr::swap_remove` / `drop_to`, from their extracted statements, on an array whose first
`len` cells are initialised: the list-level `swapRemove` of the model, and a drop of exactly the
first `len` values.
-/
import Gecs.Gen.Steps

namespace Gecs

variable {β : Type}

theorem set_last_none (l : List β) (tail : List (Option β)) (h : l ≠ []) :
    (l.map some ++ tail).set (l.length - 1) none = l.dropLast.map some ++ none :: tail := by
  have hl : l = l.dropLast ++ [l.getLast h] := (List.dropLast_concat_getLast h).symm
  have hlen : l.length - 1 = (l.dropLast.map some).length := by simp
  rw [hlen]
  conv => lhs; rw [hl]
  simp [List.set_append_right]

/-- `swap_remove(index, len)` moves the value at `index` out, the last value into its place,
and leaves the vacated last cell dead; cells past `len` are untouched. -/
theorem gen_mem_swap_remove (l : List β) (tail : List (Option β)) (i : Nat) (hi : i < l.length) :
    execDataSwapRemove Gen.dataSwapRemoveSteps (l.map some ++ tail) i l.length
      = some (l[i], (swapRemove l i).map some ++ none :: tail) := by
  have hn : l.length ≠ 0 := Nat.ne_of_gt (Nat.zero_lt_of_lt hi)
  have hlast : l.length - 1 < l.length := Nat.sub_one_lt hn
  -- the first `len` cells hold the values of `l`
  have hget : ∀ j (hj : j < l.length), (l.map some ++ tail)[j]? = some (some l[j]) := fun j hj => by
    rw [List.getElem?_append_left (by rw [List.length_map]; exact hj), List.getElem?_map,
      List.getElem?_eq_getElem hj]
    rfl
  have hi' : i < (l.map some ++ tail).length := by
    rw [List.length_append, List.length_map]; exact Nat.lt_add_right _ hi
  have hset : (l.map some ++ tail).set i (some l[l.length - 1])
      = (l.set i l[l.length - 1]).map some ++ tail := by
    rw [List.set_append_left _ _ (by rw [List.length_map]; exact hi), List.map_set]
  have hfin := set_last_none (l.set i l[l.length - 1]) tail
    (fun h => hn (List.length_eq_zero_iff.2 ((List.set_eq_nil_iff _ _).1 h)))
  rw [List.length_set] at hfin
  have hl2 : l.length - 1 < ((l.set i l[l.length - 1]).map some ++ tail).length := by
    rw [List.length_append, List.length_map, List.length_set]; exact Nat.lt_add_right _ hlast
  unfold execDataSwapRemove Gen.dataSwapRemoveSteps
  simp only [runMS, hn, if_false, hget i hi, hget _ hlast, hi', if_true, hset, hl2,
    List.getElem?_set_self hl2]
  rw [hfin, swapRemove, List.getLast?_eq_getElem?, List.getElem?_eq_getElem hlast]

theorem gen_mem_drop_to (l : List β) (tail : List (Option β)) :
    execDataDropTo Gen.dataDropToSteps (l.map some ++ tail) l.length
      = some (l, List.replicate l.length none ++ tail) := by
  unfold execDataDropTo Gen.dataDropToSteps
  simp [List.all_map, List.filterMap_map]

end Gecs
