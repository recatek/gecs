/-
Rules for the query loops of `Gecs/Model/Query.lean`, stated once and used by
Lemmas/Loops.lean (C06/C07), Lemmas/LPost.lean, Lemmas/WorldRel.lean and Lemmas/Robust.lean.

* `bindArgs` is the list of `Loops.bindArg`s, one per parameter (`bindArgs_eq_some_iff`); what is
  bound at a dense index depends on that row only (`bindArgs_congr`).
* `iterLoop` is reasoned about with Lean's own `fun_induction iterLoop …` (five cases).
* `destroyLoop` has `Loops.destroyLoop_induct`: the same kind of principle, written by hand so
  that `ContinueDestroy` / `BreakDestroy` share their cases, and carrying `destroyTrace` along.
* `iterLoop_rule` / `destroyLoop_rule` / `iterQuery_rule` / `iterDestroyQuery_rule`: what every
  step preserves holds of the state the loop ends in, and the loop does not end in `ub`;
  `applyWrites_rule` is the same for the writes of one closure call.
-/
import Gecs.Model.Query

namespace Gecs
variable {α σ : Type}

/-- `P` holds of the storage carried by the outcome; `ub` does not satisfy anything. -/
def LoopOut.sat (P : Storage α → Prop) : LoopOut σ α → Prop
  | .done _ s' => P s'
  | .stop _ s' => P s'
  | .panic _ _ s' => P s'
  | .ub _ => False

theorem LoopOut.sat_mono {P Q : Storage α → Prop} {o : LoopOut σ α} (h : o.sat P)
    (hpq : ∀ s, P s → Q s) : o.sat Q := by
  cases o with
  | ub => exact h
  | _ => exact hpq _ h

theorem LoopOut.sat_not_ub {P : Storage α → Prop} {o : LoopOut σ α} (h : o.sat P) :
    ∀ m, o ≠ .ub m := by
  intro m hm; rw [hm] at h; exact h

def QOut.sat (P : World α → Prop) : QOut σ α → Prop
  | .ok _ w' => P w'
  | .panic _ _ w' => P w'
  | .ub _ => False

theorem QOut.sat_mono {P Q : World α → Prop} {o : QOut σ α} (h : o.sat P)
    (hpq : ∀ w, P w → Q w) : o.sat Q := by
  cases o with
  | ub => exact h
  | _ => exact hpq _ h

namespace Loops

/-- What one parameter is bound to at dense index `idx`. -/
def bindArg (idA : Nat) (s : Storage α) (version idx : Nat) : Param → Option (Arg α)
  | .comp c m => ((s.cols.getD c [])[idx]?).map (Arg.comp m)
  | .ent | .entAny => (s.ents[idx]?).map (fun e => Arg.ent (mkKey e.slot idA e.ver))
  | .dir | .dirAny => some (Arg.dir (mkKey idx idA version))

theorem bindArgs_cons (idA : Nat) (s : Storage α) (v idx : Nat) (p : Param) (ps : List Param) :
    bindArgs idA s v idx (p :: ps) =
      (match bindArg idA s v idx p, bindArgs idA s v idx ps with
       | some a, some as => some (a :: as)
       | _, _ => none) := by
  cases p <;> rfl

theorem bindArgs_eq_some_iff (idA : Nat) (s : Storage α) (v idx : Nat) (ps : List Param)
    (args : List (Arg α)) :
    bindArgs idA s v idx ps = some args ↔ ps.map (bindArg idA s v idx) = args.map some := by
  induction ps generalizing args with
  | nil => cases args <;> simp [bindArgs]
  | cons p ps ih =>
    rw [bindArgs_cons]
    cases args with
    | nil => cases bindArg idA s v idx p <;> cases bindArgs idA s v idx ps <;> simp
    | cons a as =>
      rw [List.map_cons, List.map_cons, List.cons.injEq, ← ih]
      cases bindArg idA s v idx p <;> cases bindArgs idA s v idx ps <;> simp

theorem bindArgs_length {idA : Nat} {s : Storage α} {v idx : Nat} {ps : List Param}
    {args : List (Arg α)} (h : bindArgs idA s v idx ps = some args) : args.length = ps.length := by
  have := congrArg List.length ((bindArgs_eq_some_iff idA s v idx ps args).mp h)
  simpa using this.symm

theorem bindArgs_getElem? {idA : Nat} {s : Storage α} {v idx : Nat} {ps : List Param}
    {args : List (Arg α)} (h : bindArgs idA s v idx ps = some args) {i : Nat} {p : Param}
    (hp : ps[i]? = some p) : ∃ a, args[i]? = some a ∧ bindArg idA s v idx p = some a := by
  have hm := (bindArgs_eq_some_iff idA s v idx ps args).mp h
  have := congrArg (fun l => l[i]?) hm
  simp only [List.getElem?_map, hp, Option.map_some] at this
  cases ha : args[i]? with
  | none => rw [ha] at this; cases this
  | some a => rw [ha] at this; exact ⟨a, rfl, by simpa using this⟩

theorem bindArgs_congr (idA : Nat) (s s' : Storage α) (v idx : Nat)
    (he : s.ents[idx]? = s'.ents[idx]?)
    (hc : ∀ c, (s.cols.getD c [])[idx]? = (s'.cols.getD c [])[idx]?) (ps : List Param) :
    bindArgs idA s v idx ps = bindArgs idA s' v idx ps := by
  induction ps with
  | nil => rfl
  | cons p ps ih =>
    have : bindArg idA s v idx p = bindArg idA s' v idx p := by cases p <;> simp only [bindArg, he, hc]
    rw [bindArgs_cons, bindArgs_cons, ih, this]

theorem bindArg_ent_eq {idA : Nat} {s : Storage α} {v d : Nat} {a : Arg α} {p : Param}
    (hp : p = .ent ∨ p = .entAny) (h : bindArg idA s v d p = some a) :
    ∃ e, s.ents[d]? = some e ∧ a = Arg.ent (mkKey e.slot idA e.ver) := by
  rcases hp with rfl | rfl <;>
  · simp only [bindArg, Option.map_eq_some_iff] at h
    obtain ⟨e, he, rfl⟩ := h
    exact ⟨e, he, rfl⟩

theorem bindArgs_own {idA : Nat} {s : Storage α} {v d : Nat} {ps : List Param}
    {args : List (Arg α)} (h : bindArgs idA s v d ps = some args) {i : Nat} {p : Param}
    (hp : ps[i]? = some p) :
    match p with
    | .ent | .entAny => ∃ e, s.ents[d]? = some e ∧ args[i]? = some (Arg.ent (mkKey e.slot idA e.ver))
    | .dir | .dirAny => args[i]? = some (Arg.dir (mkKey d idA v))
    | .comp c m => ∃ col x, s.cols[c]? = some col ∧ col[d]? = some x
        ∧ args[i]? = some (Arg.comp m x) := by
  obtain ⟨a, ha, hb⟩ := bindArgs_getElem? h hp
  cases p with
  | ent => obtain ⟨e, he, rfl⟩ := bindArg_ent_eq (.inl rfl) hb; exact ⟨e, he, ha⟩
  | entAny => obtain ⟨e, he, rfl⟩ := bindArg_ent_eq (.inr rfl) hb; exact ⟨e, he, ha⟩
  | dir | dirAny => cases hb; exact ha
  | comp c m =>
    simp only [bindArg, Option.map_eq_some_iff] at hb
    obtain ⟨x, hx, rfl⟩ := hb
    cases hc : s.cols[c]? with
    | none => simp [hc] at hx
    | some col => exact ⟨col, x, hc, by simpa [hc] using hx, ha⟩

end Loops

/-- The closure's writes are `writeCell`s at row `idx` of the columns bound `&mut`. -/
theorem applyWrites_rule {P : Storage α → Prop} (idx : Nat) (ps : List Param)
    (ws : List (Option α)) (s : Storage α) (hw : ∀ s c x, Param.comp c true ∈ ps → P s → P (writeCell s idx c x))
    (h : P s) : P (applyWrites s idx ps ws) := by
  fun_induction applyWrites s idx ps ws with
  | case1 s c ps x ws ih =>
    exact ih (fun s c' x' hm => hw s c' x' (List.mem_cons_of_mem _ hm))
      (hw s c x List.mem_cons_self h)
  | case2 s p ps w ws _ ih => exact ih (fun s c' x' hm => hw s c' x' (List.mem_cons_of_mem _ hm)) h
  | case3 => exact h

/-- `ecs_iter!` over one archetype changes the storage by the closure's writes only. -/
theorem iterLoop_rule {P : Storage α → Prop} (idA : Nat) (ps : List Param) (f : Closure σ α Step)
    (v : Nat) (idxs : List Nat) (st : σ) (s : Storage α)
    (hw : ∀ idx ∈ idxs, ∀ s ws, P s → P (applyWrites s idx ps ws)) (h : P s) :
    (iterLoop idA ps f v idxs st s).sat P := by
  fun_induction iterLoop idA ps f v idxs st s with
  | case1 | case2 => exact h
  | case3 | case4 => exact hw _ List.mem_cons_self _ _ h
  | case5 _ _ _ _ _ _ _ _ _ ih =>
    exact ih (fun i hi => hw i (List.mem_cons_of_mem _ hi)) (hw _ List.mem_cons_self _ _ h)

/-- `ecs_iter!`: what each archetype's loop does to the world, chained over the query. -/
theorem iterQuery_rule {P : World α → Prop} (cfg : Cfg) (f : Closure σ α Step) (q : Query) (st : σ)
    (w : World α)
    (hstep : ∀ qa ∈ q, ∀ w st, P w → ∃ s, w.archs[qa.a]? = some s ∧ slicesValid cfg s = true
      ∧ (iterLoop (w.ids.getD qa.a ID_RANGE) qa.params f s.version (List.range s.len) st s).sat
          (fun s' => P (w.setArch qa.a s')))
    (h : P w) : (iterQuery cfg f q st w).sat P := by
  induction q generalizing st w with
  | nil => exact h
  | cons qa rest ih =>
    obtain ⟨s, hs, hv, hl⟩ := hstep qa List.mem_cons_self w st h
    rw [iterQuery]
    simp only [hs, hv, if_true]
    cases hloop : iterLoop (w.ids.getD qa.a ID_RANGE) qa.params f s.version
        (List.range s.len) st s <;> rw [hloop] at hl
    case done => exact ih _ _ (fun qb hqb => hstep qb (List.mem_cons_of_mem _ hqb)) hl
    all_goals exact hl

namespace Loops

/-- The `(dense index, storage)` pairs that `destroyLoop` passes to `bindArgs` (as
`bindArgs idA s s.version idx ps`), in call order: the storage every closure call runs in.
Same control flow as `destroyLoop`, collecting the pair at the `bindArgs` site. -/
def destroyTrace (cfg : Cfg) (idA : Nat) (ps : List Param) (f : Closure σ α Step4) :
    List Nat → σ → Storage α → List (Nat × Storage α)
  | [], _, _ => []
  | idx :: rest, st, s =>
    if slicesValid cfg s then
      match bindArgs idA s s.version idx ps with
      | none => []
      | some args =>
        (idx, s) ::
          (match f st args with
          | .panic _ _ => []
          | .ret st' ws r =>
            let s1 := applyWrites s idx ps ws
            match r with
            | .cont => destroyTrace cfg idA ps f rest st' s1
            | .brk => []
            | .contDestroy | .brkDestroy =>
              match s1.ents[idx]? with
              | none => []
              | some e =>
                match destroyEnt cfg s1 e with
                | .ok _ s2 => if r = .brkDestroy then [] else destroyTrace cfg idA ps f rest st' s2
                | .panic _ _ => []
                | .ub _ => [])
    else []

theorem destroyLoop_induct (cfg : Cfg) (idA : Nat) (ps : List Param) (f : Closure σ α Step4)
    {motive : List Nat → σ → Storage α → LoopOut σ α → List (Nat × Storage α) → Prop}
    (nil : ∀ st s, motive [] st s (.done st s) [])
    (invalid : ∀ idx rest st s, slicesValid cfg s = false →
      motive (idx :: rest) st s (.ub "get_all_slices_mut: data not valid up to len") [])
    (oob : ∀ idx rest st s, slicesValid cfg s = true → bindArgs idA s s.version idx ps = none →
      motive (idx :: rest) st s (.panic "index out of bounds" st s) [])
    (fpanic : ∀ idx rest st s args st' ws, slicesValid cfg s = true →
      bindArgs idA s s.version idx ps = some args → f st args = .panic st' ws →
      motive (idx :: rest) st s (.panic "closure" st' (applyWrites s idx ps ws)) [(idx, s)])
    (brk : ∀ idx rest st s args st' ws, slicesValid cfg s = true →
      bindArgs idA s s.version idx ps = some args → f st args = .ret st' ws .brk →
      motive (idx :: rest) st s (.stop st' (applyWrites s idx ps ws)) [(idx, s)])
    (cont : ∀ idx rest st s args st' ws, slicesValid cfg s = true →
      bindArgs idA s s.version idx ps = some args → f st args = .ret st' ws .cont →
      motive rest st' (applyWrites s idx ps ws)
        (destroyLoop cfg idA ps f rest st' (applyWrites s idx ps ws))
        (destroyTrace cfg idA ps f rest st' (applyWrites s idx ps ws)) →
      motive (idx :: rest) st s (destroyLoop cfg idA ps f rest st' (applyWrites s idx ps ws))
        ((idx, s) :: destroyTrace cfg idA ps f rest st' (applyWrites s idx ps ws)))
    (gone : ∀ idx rest st s args st' ws r, slicesValid cfg s = true →
      bindArgs idA s s.version idx ps = some args → f st args = .ret st' ws r →
      r = .contDestroy ∨ r = .brkDestroy → (applyWrites s idx ps ws).ents[idx]? = none →
      motive (idx :: rest) st s (.panic "index out of bounds" st' (applyWrites s idx ps ws))
        [(idx, s)])
    (dpanic : ∀ idx rest st s args st' ws r e m s2, slicesValid cfg s = true →
      bindArgs idA s s.version idx ps = some args → f st args = .ret st' ws r →
      r = .contDestroy ∨ r = .brkDestroy → (applyWrites s idx ps ws).ents[idx]? = some e →
      destroyEnt cfg (applyWrites s idx ps ws) e = .panic m s2 →
      motive (idx :: rest) st s (.panic m st' s2) [(idx, s)])
    (dub : ∀ idx rest st s args st' ws r e m, slicesValid cfg s = true →
      bindArgs idA s s.version idx ps = some args → f st args = .ret st' ws r →
      r = .contDestroy ∨ r = .brkDestroy → (applyWrites s idx ps ws).ents[idx]? = some e →
      destroyEnt cfg (applyWrites s idx ps ws) e = .ub m →
      motive (idx :: rest) st s (.ub m) [(idx, s)])
    (dstop : ∀ idx rest st s args st' ws e b s2, slicesValid cfg s = true →
      bindArgs idA s s.version idx ps = some args → f st args = .ret st' ws .brkDestroy →
      (applyWrites s idx ps ws).ents[idx]? = some e →
      destroyEnt cfg (applyWrites s idx ps ws) e = .ok b s2 →
      motive (idx :: rest) st s (.stop st' s2) [(idx, s)])
    (dcont : ∀ idx rest st s args st' ws e b s2, slicesValid cfg s = true →
      bindArgs idA s s.version idx ps = some args → f st args = .ret st' ws .contDestroy →
      (applyWrites s idx ps ws).ents[idx]? = some e →
      destroyEnt cfg (applyWrites s idx ps ws) e = .ok b s2 →
      motive rest st' s2 (destroyLoop cfg idA ps f rest st' s2)
        (destroyTrace cfg idA ps f rest st' s2) →
      motive (idx :: rest) st s (destroyLoop cfg idA ps f rest st' s2)
        ((idx, s) :: destroyTrace cfg idA ps f rest st' s2)) :
    ∀ idxs st s, motive idxs st s (destroyLoop cfg idA ps f idxs st s)
      (destroyTrace cfg idA ps f idxs st s) := by
  intro idxs
  induction idxs with
  | nil => exact nil
  | cons idx rest ih =>
    intro st s
    rw [destroyLoop, destroyTrace]
    cases hv : slicesValid cfg s with
    | false => exact invalid idx rest st s hv
    | true =>
      rw [if_pos rfl, if_pos rfl]
      cases hb : bindArgs idA s s.version idx ps with
      | none => exact oob idx rest st s hv hb
      | some args =>
        dsimp only
        cases hf : f st args with
        | panic st' ws => exact fpanic idx rest st s args st' ws hv hb hf
        | ret st' ws r =>
          cases r with
          | cont => exact cont idx rest st s args st' ws hv hb hf (ih st' _)
          | brk => exact brk idx rest st s args st' ws hv hb hf
          | contDestroy | brkDestroy =>
            dsimp only
            cases he : (applyWrites s idx ps ws).ents[idx]? with
            | none => exact gone idx rest st s args st' ws _ hv hb hf (by simp) he
            | some e =>
              dsimp only
              cases hde : destroyEnt cfg (applyWrites s idx ps ws) e with
              | panic m s2 => exact dpanic idx rest st s args st' ws _ e m s2 hv hb hf (by simp) he hde
              | ub m => exact dub idx rest st s args st' ws _ e m hv hb hf (by simp) he hde
              | ok b s2 =>
                -- after the removal `contDestroy` goes on with the loop, `brkDestroy` stops
                first
                | exact dcont idx rest st s args st' ws e b s2 hv hb hf he hde (ih st' s2)
                | exact dstop idx rest st s args st' ws e b s2 hv hb hf he hde

end Loops

theorem destroyLoop_rule {P : Storage α → Prop} (cfg : Cfg) (idA : Nat) (ps : List Param)
    (f : Closure σ α Step4)
    (hv : ∀ s, P s → slicesValid cfg s = true)
    (hw : ∀ s idx ws, P s → P (applyWrites s idx ps ws))
    (hd : ∀ s e, P s → (∃ r s', destroyEnt cfg s e = .ok r s' ∧ P s')
      ∨ (∃ m, destroyEnt cfg s e = .panic m s)) :
    ∀ idxs st s, P s → (destroyLoop cfg idA ps f idxs st s).sat P := by
  apply Loops.destroyLoop_induct cfg idA ps f (motive := fun _ _ s o _ => P s → o.sat P)
  case nil | oob => intros; assumption
  case invalid => intro _ _ _ s hv' h; rw [hv s h] at hv'; cases hv'
  case fpanic | brk | gone => intros; exact hw _ _ _ ‹_›
  case cont => intro _ _ _ _ _ _ _ _ _ _ ih h; exact ih (hw _ _ _ h)
  case dpanic =>
    intro idx _ _ s _ _ ws _ e _ _ _ _ _ _ _ hde h
    rcases hd _ e (hw s idx ws h) with ⟨_, _, g, _⟩ | ⟨_, g⟩ <;> rw [g] at hde <;> cases hde
    exact hw _ _ _ h
  case dub =>
    intro idx _ _ s _ _ ws _ e _ _ _ _ _ _ hde h
    rcases hd _ e (hw s idx ws h) with ⟨_, _, g, _⟩ | ⟨_, g⟩ <;> rw [g] at hde <;> cases hde
  case dstop =>
    intro idx _ _ s _ _ ws e _ _ _ _ _ _ hde h
    rcases hd _ e (hw s idx ws h) with ⟨_, _, g, g'⟩ | ⟨_, g⟩ <;> rw [g] at hde <;> cases hde
    exact g'
  case dcont =>
    intro idx _ _ s _ _ ws e _ _ _ _ _ _ hde ih h
    rcases hd _ e (hw s idx ws h) with ⟨_, _, g, g'⟩ | ⟨_, g⟩ <;> rw [g] at hde <;> cases hde
    exact ih g'

/-- `ecs_iter_destroy!`, chained over the query. -/
theorem iterDestroyQuery_rule {P : World α → Prop} (cfg : Cfg) (f : Closure σ α Step4) (q : Query)
    (st : σ) (w : World α)
    (hstep : ∀ qa ∈ q, ∀ w st, P w → ∃ s, w.archs[qa.a]? = some s
      ∧ (destroyLoop cfg (w.ids.getD qa.a ID_RANGE) qa.params f (List.range s.len).reverse st s).sat
          (fun s' => P (w.setArch qa.a s')))
    (h : P w) : (iterDestroyQuery cfg f q st w).sat P := by
  induction q generalizing st w with
  | nil => exact h
  | cons qa rest ih =>
    obtain ⟨s, hs, hl⟩ := hstep qa List.mem_cons_self w st h
    rw [iterDestroyQuery]
    simp only [hs]
    cases hloop : destroyLoop cfg (w.ids.getD qa.a ID_RANGE) qa.params f
        (List.range s.len).reverse st s <;> rw [hloop] at hl
    case done => exact ih _ _ (fun qb hqb => hstep qb (List.mem_cons_of_mem _ hqb)) hl
    all_goals exact hl

end Gecs
