/-
`StorageN::force_destroy` (repaired statement order): what it computes on the position of a live
handle (`forceDestroy_eq`), that the state it writes satisfies the invariant (`Inv.removed`), what
a success does (`Removed`), and its three outcomes; the two overflow panics leave the state
untouched.  The only steps that can fail are the two calls of `nextVer`, whose equations come
first.
-/
import Gecs.Lemmas.Inv
import Gecs.Lemmas.SwapRemove
import Gecs.Lemmas.Create

namespace Gecs
variable {α : Type}

theorem nextVer_bounds {cfg : Cfg} {v w : Nat} (h : nextVer cfg v = some w)
    (hv : 1 ≤ v ∧ v ≤ cfg.vmax) : 1 ≤ w ∧ w ≤ cfg.vmax := by
  unfold nextVer at h
  split at h
  · cases h; omega
  · split at h
    · cases h; simp only [VERSION_START]; omega
    · cases h

theorem nextVer_of_lt (cfg : Cfg) {v : Nat} (h : v < cfg.vmax) : nextVer cfg v = some (v + 1) := by
  simp [nextVer, h]

theorem nextVer_wrapping_some {cfg : Cfg} (hw : cfg.wrapping = true) (v : Nat) :
    ∃ w, nextVer cfg v = some w := by
  unfold nextVer
  by_cases h : v < cfg.vmax
  · exact ⟨v + 1, by simp only [h, if_true]⟩
  · exact ⟨VERSION_START, by simp only [h, if_false, hw, if_true]⟩

theorem nextVer_nowrap {cfg : Cfg} (hw : cfg.wrapping = false) {v w : Nat}
    (h : nextVer cfg v = some w) : w = v + 1 ∧ v < cfg.vmax := by
  unfold nextVer at h
  split at h
  · rename_i hlt; cases h; exact ⟨rfl, hlt⟩
  · rw [hw] at h; simp at h

theorem nextVer_none_of_ge {cfg : Cfg} (hw : cfg.wrapping = false) {v : Nat}
    (h : cfg.vmax ≤ v) : nextVer cfg v = none := by
  have : ¬ v < cfg.vmax := by omega
  simp [nextVer, this, hw]

/-- The column-validity guard of `force_destroy` under `colsLen`. -/
theorem cols_any_ne_false (cols : List (List α)) (n : Nat) (h : ∀ c ∈ cols, c.length = n) :
    cols.any (fun c => c.length != n) = false := by
  rw [List.any_eq_false]
  intro c hc; simp [h c hc]

/-- What `forceDestroy` computes on a valid `(slot, dense)` pair: all lookups succeed (`l` is the
handle in the last dense position, the one that is moved), the result only depends on the two
`nextVer` outcomes. -/
theorem forceDestroy_eq (cfg : Cfg) (s : Storage α) (si d v : Nat) (h : Inv cfg s)
    (hsl : s.slots[si]? = some ⟨.data d, v⟩) :
    ∃ l : Ent, s.ents[s.len - 1]? = some l
      ∧ forceDestroy cfg s si d =
        (match nextVer cfg v, nextVer cfg s.version with
        | none, _ => .panic "slot version overflow" s
        | some _, none => .panic "arch version overflow" s
        | some sv, some av =>
          .ok (s.cols.filterMap (fun c => c[d]?)) { s with
            ents := swapRemove s.ents d
            cols := s.cols.map (fun c => swapRemove c d)
            slots := (s.slots.set l.slot ⟨.data d, l.ver⟩).set si ⟨s.freeHead, sv⟩
            version := av
            freeHead := .free si
            len := s.len - 1
            destroyed := if cfg.events then s.destroyed ++ [⟨si, v⟩] else s.destroyed }) := by
  have ht := h.sparse si d v hsl
  have hdl : d < s.len := h.ents_lt ht
  obtain ⟨l, hl⟩ := h.ents_get (Nat.sub_lt (Nat.zero_lt_of_lt hdl) Nat.one_pos)
  refine ⟨l, hl, ?_⟩
  have hg : ¬ (s.ents.length ≠ s.len ∨ d ≥ s.len
      ∨ (s.cols.any (fun c => c.length != s.len)) = true) := by
    rw [cols_any_ne_false s.cols s.len h.colsLen]
    simp [h.entsLen, hdl]
  unfold forceDestroy
  rw [if_neg hg]
  simp only [hsl, ht, hl]
  cases nextVer cfg v with
  | none => rfl
  | some sv =>
    cases nextVer cfg s.version with
    | none => rfl
    | some av => simp only [h.dense _ l hl]

theorem forceDestroy_slot_overflow (cfg : Cfg) (s : Storage α) (si d v : Nat) (h : Inv cfg s)
    (hsl : s.slots[si]? = some ⟨.data d, v⟩) (hsv : nextVer cfg v = none) :
    forceDestroy cfg s si d = .panic "slot version overflow" s := by
  obtain ⟨_, _, heq⟩ := forceDestroy_eq cfg s si d v h hsl
  rw [heq, hsv]

theorem forceDestroy_arch_overflow (cfg : Cfg) (s : Storage α) (si d v : Nat) (h : Inv cfg s)
    (hsl : s.slots[si]? = some ⟨.data d, v⟩) (sv : Nat) (hsv : nextVer cfg v = some sv)
    (hav : nextVer cfg s.version = none) :
    forceDestroy cfg s si d = .panic "arch version overflow" s := by
  obtain ⟨_, _, heq⟩ := forceDestroy_eq cfg s si d v h hsl
  rw [heq, hsv, hav]

/-- `force_destroy` reads the configuration only through `events` and the two `nextVer`
calls. -/
theorem forceDestroy_congr_cfg {cfg cfg' : Cfg} (s : Storage α) (si d : Nat)
    (hev : cfg'.events = cfg.events)
    (h1 : ∀ sl, s.slots[si]? = some sl → nextVer cfg' sl.ver = nextVer cfg sl.ver)
    (h2 : nextVer cfg' s.version = nextVer cfg s.version) :
    forceDestroy cfg' s si d = forceDestroy cfg s si d := by
  unfold forceDestroy
  rw [h2, hev]
  cases hs : s.slots[si]? with
  | none => rfl
  | some sl =>
    cases s.ents[d]? with
    | none => rfl
    | some tgt =>
      cases s.ents[s.len - 1]? with
      | none => rfl
      | some lastE =>
        simp only []
        rw [h1 sl hs]

/-- The state written by a successful `force_destroy` of the handle `t` at dense index `d`
satisfies the invariant: `l`, the last handle, takes position `d` and its slot is redirected there;
the slot of `t` becomes the head of the free chain.  (`l = t` when `d` is the last position: the
second `set` then overwrites the first.) -/
theorem Inv.removed {cfg : Cfg} {s : Storage α} {d sv av : Nat} {t l : Ent} {D : List Ent}
    (h : Inv cfg s) (ht : s.ents[d]? = some t) (hl : s.ents[s.len - 1]? = some l)
    (hsv : nextVer cfg t.ver = some sv) (hav : nextVer cfg s.version = some av) :
    Inv cfg { s with
      ents := swapRemove s.ents d
      cols := s.cols.map (fun c => swapRemove c d)
      slots := (s.slots.set l.slot ⟨.data d, l.ver⟩).set t.slot ⟨s.freeHead, sv⟩
      version := av
      freeHead := .free t.slot
      len := s.len - 1
      destroyed := D } := by
  have hd : d < s.ents.length := (List.getElem?_eq_some_iff.mp ht).1
  have hdl : d < s.len := h.ents_lt ht
  have hts := h.dense d t ht
  have hls := h.dense _ l hl
  have hget := getElem?_set_set_of_lt (List.getElem?_eq_some_iff.mp hts).1
    (List.getElem?_eq_some_iff.mp hls).1 (⟨s.freeHead, sv⟩ : Slot) ⟨.data d, l.ver⟩
  obtain ⟨L, hc, hnd, hlen⟩ := h.chain
  have htL := h.live_not_mem_chain hc ht
  exact {
    slotsLen := (List.length_set ..).trans ((List.length_set ..).trans h.slotsLen)
    entsLen := (swapRemove_length _ _).trans (congrArg (· - 1) h.entsLen)
    colsLen := fun c hc => by
      obtain ⟨c0, hc0, rfl⟩ := List.mem_map.mp hc
      rw [swapRemove_length, h.colsLen c0 hc0]
    lenCap := Nat.le_trans (Nat.sub_le _ _) h.lenCap
    capMax := h.capMax
    archVer := nextVer_bounds hav h.archVer
    chain := ⟨t.slot :: L,
      .cons (sl := ⟨s.freeHead, sv⟩) (by rw [hget, if_pos rfl]) hc.head_isFree
        ((hc.set_not_mem _ _ (h.live_not_mem_chain hc hl)).set_not_mem _ _ htL),
      List.nodup_cons.mpr ⟨htL, hnd⟩, by simp only [List.length_cons]; omega⟩
    verPos := fun i sl hi => by
      rw [hget] at hi
      by_cases h1 : i = t.slot
      · rw [if_pos h1] at hi; cases hi
        exact nextVer_bounds hsv (h.verPos _ _ hts)
      rw [if_neg h1] at hi
      by_cases h2 : i = l.slot
      · rw [if_pos h2] at hi; cases hi
        exact h.verPos l.slot ⟨.data (s.len - 1), l.ver⟩ hls
      rw [if_neg h2] at hi
      exact h.verPos i sl hi
    dense := fun j e he => by
      show ((s.slots.set l.slot ⟨.data d, l.ver⟩).set t.slot ⟨s.freeHead, sv⟩)[e.slot]? = _
      rw [swapRemove_getElem? _ _ _ hd, h.entsLen] at he
      by_cases hj : j < s.len - 1
      · rw [if_pos hj] at he
        rw [hget]
        by_cases hjd : j = d
        · -- the moved handle: `l`, which is not `t` because `d` is not the last position
          subst hjd
          rw [if_pos rfl, hl] at he; cases he
          rw [if_neg fun hs => absurd (ents_slot_unique h _ _ _ _ hl ht hs).1 (Nat.ne_of_gt hj),
            if_pos rfl]
        · rw [if_neg hjd] at he
          rw [if_neg fun hs => hjd (ents_slot_unique h _ _ _ _ he ht hs).1,
            if_neg fun hs => absurd (ents_slot_unique h _ _ _ _ he hl hs).1 (Nat.ne_of_lt hj)]
          exact h.dense j e he
      · rw [if_neg hj] at he; cases he
    sparse := fun i d' v' hi => by
      show (swapRemove s.ents d)[d']? = _
      rw [hget] at hi
      rw [swapRemove_getElem? _ _ _ hd, h.entsLen]
      by_cases h1 : i = t.slot
      · -- the freed slot holds the old head of the free chain, not a dense index
        rw [if_pos h1] at hi
        have := hc.head_isFree
        rw [(Slot.mk.inj (Option.some.inj hi)).1] at this; cases this
      rw [if_neg h1] at hi
      by_cases h2 : i = l.slot
      · rw [if_pos h2] at hi; cases hi
        have hne : d ≠ s.len - 1 := fun hdd => by
          rw [hdd, hl] at ht; cases ht; exact h1 h2
        rw [if_pos (Nat.lt_of_le_of_ne (Nat.le_sub_one_of_lt hdl) hne), if_pos rfl, hl, h2]
      rw [if_neg h2] at hi
      -- an untouched slot points at a position that is neither `d` nor the last one
      have hold := h.sparse i d' v' hi
      have h3 : d' ≠ d := fun hdd => by rw [hdd, ht] at hold; cases hold; exact h1 rfl
      have h4 : d' ≠ s.len - 1 := fun hdd => by rw [hdd, hl] at hold; cases hold; exact h2 rfl
      rw [if_pos (Nat.lt_of_le_of_ne (Nat.le_sub_one_of_lt (h.ents_lt hold)) h4), if_neg h3]
      exact hold }

/-- What a successful removal of the handle `t` stored at dense index `d` does to a storage;
`row` is the removed row as `force_destroy` returns it. -/
structure Removed (cfg : Cfg) (s : Storage α) (d : Nat) (t : Ent) (row : List α)
    (s' : Storage α) : Prop where
  inv : Inv cfg s'
  pos : s.ents[d]? = some t
  row : row = s.cols.filterMap (·[d]?)
  len : s'.len = s.len - 1
  cap : s'.capacity = s.capacity
  version : nextVer cfg s.version = some s'.version
  ents : s'.ents = swapRemove s.ents d
  cols : s'.cols = s.cols.map (fun c => swapRemove c d)
  slot : ∃ sv, nextVer cfg t.ver = some sv ∧ s'.slots[t.slot]? = some ⟨s.freeHead, sv⟩
  frame : ∀ (i : Nat) (sl : Slot), i ≠ t.slot → s.slots[i]? = some sl →
      ∃ sl' : Slot, s'.slots[i]? = some sl' ∧ sl'.ver = sl.ver
  created : s'.created = s.created
  destroyed : s'.destroyed = if cfg.events then s.destroyed ++ [t] else s.destroyed

theorem forceDestroy_ok (cfg : Cfg) (s : Storage α) (si d v : Nat) (h : Inv cfg s)
    (hsl : s.slots[si]? = some ⟨.data d, v⟩)
    (sv av : Nat) (hsv : nextVer cfg v = some sv) (hav : nextVer cfg s.version = some av) :
    ∃ row s', forceDestroy cfg s si d = .ok row s' ∧ Removed cfg s d ⟨si, v⟩ row s' := by
  obtain ⟨l, hl, heq⟩ := forceDestroy_eq cfg s si d v h hsl
  rw [hsv, hav] at heq
  have ht := h.sparse si d v hsl
  have hls := h.dense _ l hl
  have hget := getElem?_set_set_of_lt (List.getElem?_eq_some_iff.mp hsl).1
    (List.getElem?_eq_some_iff.mp hls).1 (⟨s.freeHead, sv⟩ : Slot) ⟨.data d, l.ver⟩
  refine ⟨_, _, heq, { inv := h.removed ht hl hsv hav, pos := ht, row := rfl, len := rfl, cap := rfl,
                       version := hav, ents := rfl, cols := rfl, created := rfl, destroyed := rfl
                       slot := ⟨sv, hsv, (hget si).trans (if_pos rfl)⟩
                       frame := fun i sl hi hs => ?_ }⟩
  show ∃ sl', ((s.slots.set l.slot _).set si _)[i]? = some sl' ∧ _
  rw [hget, if_neg hi]
  -- the slot of the moved handle is rewritten with its generation kept
  by_cases hil : i = l.slot
  · rw [hil, hls] at hs; cases hs
    exact ⟨_, if_pos hil, rfl⟩
  · exact ⟨sl, (if_neg hil).trans hs, rfl⟩

theorem forceDestroy_outcome {cfg : Cfg} {s : Storage α} {d : Nat} {t : Ent} (h : Inv cfg s)
    (hd : s.ents[d]? = some t) :
    (∃ row s', forceDestroy cfg s t.slot d = .ok row s' ∧ Removed cfg s d t row s')
    ∨ (forceDestroy cfg s t.slot d = .panic "slot version overflow" s ∧ nextVer cfg t.ver = none)
    ∨ (forceDestroy cfg s t.slot d = .panic "arch version overflow" s
        ∧ nextVer cfg s.version = none) := by
  have hsl := h.dense d t hd
  cases hsv : nextVer cfg t.ver with
  | none => exact .inr (.inl ⟨forceDestroy_slot_overflow cfg s _ d _ h hsl hsv, rfl⟩)
  | some sv =>
    cases hav : nextVer cfg s.version with
    | none => exact .inr (.inr ⟨forceDestroy_arch_overflow cfg s _ d _ h hsl sv hsv hav, rfl⟩)
    | some av => exact .inl (forceDestroy_ok cfg s t.slot d t.ver h hsl sv av hsv hav)

/-- A weaker form of `forceDestroy_outcome`, stated on a slot: the first disjunct only says that both
`nextVer` calls succeed, not what `forceDestroy` returns then (that is `forceDestroy_ok`). -/
theorem forceDestroy_cases (cfg : Cfg) (s : Storage α) (si d v : Nat) (h : Inv cfg s)
    (hsl : s.slots[si]? = some ⟨.data d, v⟩) :
    (∃ sv av, nextVer cfg v = some sv ∧ nextVer cfg s.version = some av)
    ∨ forceDestroy cfg s si d = .panic "slot version overflow" s
    ∨ forceDestroy cfg s si d = .panic "arch version overflow" s := by
  rcases forceDestroy_outcome h (h.sparse si d v hsl) with ⟨_, _, _, r⟩ | ⟨hp, _⟩ | ⟨hp, _⟩
  · obtain ⟨sv, hsv, _⟩ := r.slot
    exact .inl ⟨sv, _, hsv, r.version⟩
  · exact .inr (.inl hp)
  · exact .inr (.inr hp)

namespace Removed
variable {cfg : Cfg} {s s' : Storage α} {d : Nat} {t : Ent} {row : List α}

theorem mem (r : Removed cfg s d t row s') : t ∈ s.ents := List.mem_of_getElem? r.pos

theorem mem_iff (r : Removed cfg s d t row s') (h : Inv cfg s) (x : Ent) :
    x ∈ s'.ents ↔ (x ∈ s.ents ∧ x ≠ t) :=
  r.ents ▸ mem_swapRemove_of_nodup s.ents d t (ents_nodup h) r.pos x

theorem cols_length (r : Removed cfg s d t row s') : s'.cols.length = s.cols.length := by
  rw [r.cols, List.length_map]

end Removed

/-! On `holeEx`: destroying dense index 0 moves the last entity (slot 2) down. -/
namespace StorageEx

example : ∃ row s', forceDestroy cfgEx holeEx 0 0 = .ok row s' ∧ Inv cfgEx s'
    ∧ row = [10, 20] ∧ s'.ents = [⟨2, 1⟩] ∧ s'.version = 3 := by
  obtain ⟨row, s', h1, r⟩ :=
    forceDestroy_ok cfgEx holeEx 0 0 1 holeEx_inv rfl 2 3 (by decide) (by decide)
  refine ⟨row, s', h1, r.inv, ?_, ?_, Option.some.inj r.version.symm⟩
  · rw [r.row]; decide
  · rw [r.ents]; decide

/-- Overflow instance: a slot at `vmax` in a non-wrapping configuration. -/
def ovfEx : Storage Nat :=
  ⟨1, 1, 1, .freeEnd, [⟨.data 0, 5⟩], [⟨0, 5⟩], [[7]], [], []⟩

theorem ovfEx_inv : Inv cfgEx ovfEx := (invCheck_iff _ _).mp (by decide)

example : forceDestroy cfgEx ovfEx 0 0 = .panic "slot version overflow" ovfEx :=
  forceDestroy_slot_overflow cfgEx ovfEx 0 0 5 ovfEx_inv rfl (by decide)

def cfgWrap : Cfg := ⟨8, 5, true, true, false⟩

theorem ovfEx_inv_wrap : Inv cfgWrap ovfEx := { ovfEx_inv with }

/-- With `wrapping_version` the same destroy succeeds and the generation wraps to 1. -/
example : ∃ row s', forceDestroy cfgWrap ovfEx 0 0 = .ok row s' ∧ Inv cfgWrap s'
    ∧ s'.slots[0]? = some ⟨.freeEnd, 1⟩ ∧ s'.destroyed = [⟨0, 5⟩] := by
  obtain ⟨row, s', h1, r⟩ :=
    forceDestroy_ok cfgWrap ovfEx 0 0 5 ovfEx_inv_wrap rfl 1 2 (by decide) (by decide)
  obtain ⟨sv, hsv, hslot⟩ := r.slot
  cases hsv
  exact ⟨row, s', h1, r.inv, hslot, r.destroyed⟩

/-- Overflow of the archetype version (slot generation still has room). -/
def archOvfEx : Storage Nat :=
  ⟨5, 1, 1, .freeEnd, [⟨.data 0, 1⟩], [⟨0, 1⟩], [[7]], [], []⟩

theorem archOvfEx_inv : Inv cfgEx archOvfEx := (invCheck_iff _ _).mp (by decide)

example : forceDestroy cfgEx archOvfEx 0 0 = .panic "arch version overflow" archOvfEx :=
  forceDestroy_arch_overflow cfgEx archOvfEx 0 0 1 archOvfEx_inv rfl 2 (by decide) (by decide)

end StorageEx
end Gecs

section
open Gecs
#print axioms nextVer_bounds
#print axioms forceDestroy_eq
#print axioms forceDestroy_ok
#print axioms forceDestroy_outcome
#print axioms forceDestroy_slot_overflow
#print axioms forceDestroy_arch_overflow
#print axioms forceDestroy_cases
end
