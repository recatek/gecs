/-
Ties the constants GENERATED from /repo's sources on every run (Gecs/Gen/Consts.lean, by
tools/extract.py) to the constants the models and theorems use.  If a constant changes in
the Rust code these obligations stop checking, and every property that lists them is
reported (with a search for a failing input).
-/
import Gecs.Gen.Consts
import Gecs.Model.Bits
import Gecs.Model.Check
import Gecs.Model.Storage

namespace Gecs

theorem gen_id_bits : Gen.ARCHETYPE_ID_BITS = ARCHETYPE_ID_BITS := by decide
theorem gen_id_range : 2 ^ Gen.ARCHETYPE_ID_BITS = ID_RANGE := by decide
theorem gen_max_capacity : Gen.MAX_DATA_CAPACITY = MAX_DATA_CAPACITY := by decide
theorem gen_max_index : Gen.MAX_DATA_INDEX = MAX_DATA_INDEX := by decide
theorem gen_free_bit : Gen.FREE_BIT = FREE_BIT := by decide
theorem gen_free_list_end : Gen.FREE_LIST_END = FREE_LIST_END := by decide
theorem gen_version_start : Gen.VERSION_START = VERSION_START := by decide
theorem gen_version_max : Gen.VERSION_MAX + 1 = U32 := by decide

/-- The slot-index encoding leaves room for every data index below the free bit, and the
end marker is not a data index (slot.rs: the `const` assertion and the crate's unit test). -/
theorem gen_slot_encoding_sound :
    Gen.MAX_DATA_INDEX < Gen.FREE_BIT ∧ Gen.FREE_LIST_END - Gen.FREE_BIT ≥ Gen.MAX_DATA_CAPACITY ∧
    Gen.MAX_DATA_CAPACITY * 2 ^ Gen.ARCHETYPE_ID_BITS = U32 := by decide

/-- The code's growth expression, when recognised as `(cap + a) * m`, is strict (diagnostic:
the theorems are parametric in the growth function; the driver checks every observed
growth step against the hypothesis they make). -/
def growthStrictB : Option Nat → Option Nat → Bool
  | some a, some m => decide (1 ≤ a) && decide (1 ≤ m)
  | _, _ => true

theorem gen_growth_strict : growthStrictB Gen.growthAdd Gen.growthMul = true := by decide

/-- The set of crate features the C19 theorems and streams account for. -/
theorem gen_features : Gen.features = ["default", "32_components", "wrapping_version", "events"] := rfl

/-- Storage arities instantiated by `seq!` (1..=16, and 17..=32 behind `32_components`): the
same macro body, so the model is arity-generic. -/
theorem gen_arities : Gen.storageArities = [(1, 16), (17, 32)] := rfl

end Gecs
