/-
Outcome-level specifications of the storage operations under the representation invariant.  The two
lookups answer a key that designates no live entity with `Out.miss`; `resolve_destroy` and `resolve_for`
are a lookup followed by a continuation (`destroyAfter`, `resolveForAfter`) that hands a miss through
(`destroyAfter_miss`, `resolveForAfter_miss`), so what they do with a key is the lookup's equation for
that key followed by the continuation's.
-/
import Gecs.Lemmas.Inv
import Gecs.Lemmas.SwapRemove
import Gecs.Lemmas.Grow
import Gecs.Lemmas.Create
import Gecs.Lemmas.Destroy

namespace Gecs
variable {α : Type}

/-! ## `resolve_entity` -/

theorem resolveEntity_of_mem {cfg : Cfg} {s : Storage α} (h : Inv cfg s) {d : Nat} {e : Ent}
    (hd : s.ents[d]? = some e) : resolveEntity cfg s e = .ok (some (e.slot, d)) s := by
  have hs := h.dense d e hd
  have hdl : d < s.len := h.ents_lt hd
  have hsl : e.slot < s.capacity := h.ents_slot_lt hd
  have h1 : ¬ s.len = 0 := by omega
  have h2 : ¬ e.slot ≥ s.capacity := by omega
  cases hdbg : cfg.debug <;>
    simp [resolveEntity, h1, h2, hs, SIdx.isFree, hdl, hd, hdbg]

/-- Outcome of a validating lookup with a key that designates no live entity: a miss, or the
debug-build range assertion; the storage is handed back unchanged. -/
def Out.miss {β : Type} (s : Storage α) (assert : Prop) [Decidable assert] :
    Out (Storage α) (Option β) :=
  if assert then .panic "debug_assert: invalid entity handle" s else .ok none s

theorem resolveEntity_of_not_mem {cfg : Cfg} {s : Storage α} {e : Ent} (h : Inv cfg s)
    (hn : e ∉ s.ents) :
    resolveEntity cfg s e = Out.miss s (cfg.debug = true ∧ s.len ≠ 0 ∧ e.slot ≥ s.capacity) := by
  unfold Out.miss
  by_cases h0 : s.len = 0
  · simp [resolveEntity, h0]
  by_cases hcap : e.slot ≥ s.capacity
  · cases hdbg : cfg.debug <;> simp [resolveEntity, h0, hcap, hdbg]
  have hlt : e.slot < s.slots.length := by rw [h.slotsLen]; omega
  rw [if_neg (fun hc => hcap hc.2.2)]
  obtain ⟨⟨idx, ver⟩, hsl⟩ : ∃ sl, s.slots[e.slot]? = some sl := ⟨s.slots[e.slot], by simp [hlt]⟩
  by_cases hver : ver = e.ver
  · cases idx with
    | data d =>
      subst hver
      exact absurd (List.mem_of_getElem? (h.sparse _ _ _ hsl)) hn
    | free n => simp [resolveEntity, h0, hcap, hsl, SIdx.isFree]
    | freeEnd => simp [resolveEntity, h0, hcap, hsl, SIdx.isFree]
  · simp [resolveEntity, h0, hcap, hsl, hver]

section
variable {β : Type} {s : Storage α} {P : Prop} [Decidable P] {o : Out (Storage α) (Option β)}

theorem Out.miss_cases (h : o = Out.miss s P) :
    o = .ok none s ∨ (o = .panic "debug_assert: invalid entity handle" s ∧ P) := by
  subst h; unfold Out.miss; split
  · exact .inr ⟨rfl, ‹P›⟩
  · exact .inl rfl

theorem Out.miss_ne_some (h : o = Out.miss s P) {b : β} {s' : Storage α} :
    o ≠ .ok (some b) s' := by
  rcases Out.miss_cases h with h | ⟨h, _⟩ <;> rw [h] <;> simp

end

theorem resolveEntity_spec (cfg : Cfg) (s : Storage α) (e : Ent) (h : Inv cfg s) :
    resolveEntity cfg s e = .ok none s
    ∨ (∃ d, resolveEntity cfg s e = .ok (some (e.slot, d)) s ∧ s.ents[d]? = some e)
    ∨ (∃ msg, resolveEntity cfg s e = .panic msg s ∧ cfg.debug = true
        ∧ s.len ≠ 0 ∧ e.slot ≥ s.capacity ∧ msg = "debug_assert: invalid entity handle") := by
  by_cases hm : e ∈ s.ents
  · obtain ⟨d, hd⟩ := List.getElem?_of_mem hm
    exact .inr (.inl ⟨d, resolveEntity_of_mem h hd, hd⟩)
  · rcases Out.miss_cases (resolveEntity_of_not_mem h hm) with h1 | ⟨h1, h2, h3, h4⟩
    · exact .inl h1
    · exact .inr (.inr ⟨_, h1, h2, h3, h4, rfl⟩)

theorem resolveEntity_iff_mem (cfg : Cfg) (s : Storage α) (h : Inv cfg s) (e : Ent) :
    (∃ d, resolveEntity cfg s e = .ok (some (e.slot, d)) s) ↔ e ∈ s.ents := by
  constructor
  · rintro ⟨d, hd⟩
    exact Decidable.by_contra fun hn => Out.miss_ne_some (resolveEntity_of_not_mem h hn) hd
  · intro hm
    obtain ⟨d, hd⟩ := List.getElem?_of_mem hm
    exact ⟨d, resolveEntity_of_mem h hd⟩

theorem resolveEntity_not_ub (cfg : Cfg) (s : Storage α) (e : Ent) (h : Inv cfg s) :
    ∀ m, resolveEntity cfg s e ≠ .ub m := by
  intro m hm
  rcases resolveEntity_spec cfg s e h with h1 | ⟨_, h1, _⟩ | ⟨_, h1, _⟩ <;>
    rw [h1] at hm <;> cases hm

/-! ## `resolve_direct` -/

theorem resolveDirect_of_lt {cfg : Cfg} {s : Storage α} (h : Inv cfg s) {d : Nat} {e : Ent}
    (hd : s.ents[d]? = some e) :
    resolveDirect cfg s d s.version = .ok (some (e.slot, d)) s := by
  have hs := h.dense d e hd
  have hdl : d < s.len := h.ents_lt hd
  have hsl : e.slot < s.capacity := h.ents_slot_lt hd
  have h1 : ¬ s.len = 0 := by omega
  have h2 : ¬ d ≥ s.len := by omega
  cases hdbg : cfg.debug <;>
    simp [resolveDirect, h1, h2, hs, SIdx.isFree, hsl, hd, hdbg]

theorem resolveDirect_of_not {cfg : Cfg} {s : Storage α} {d v : Nat}
    (hn : ¬ (v = s.version ∧ d < s.len)) :
    resolveDirect cfg s d v
      = Out.miss s (cfg.debug = true ∧ s.len ≠ 0 ∧ v = s.version ∧ d ≥ s.len) := by
  unfold Out.miss resolveDirect
  by_cases h0 : s.len = 0
  · simp [h0]
  by_cases hv : v = s.version
  · have hd : d ≥ s.len := by have := fun h => hn ⟨hv, h⟩; omega
    cases hdbg : cfg.debug <;> simp [h0, hv, hd]
  · simp [h0, hv]

theorem resolveDirect_of_ver_ne (cfg : Cfg) (s : Storage α) (d : Nat) {v : Nat}
    (hne : v ≠ s.version) : resolveDirect cfg s d v = .ok none s := by
  rw [resolveDirect_of_not fun h => hne h.1]
  exact if_neg fun h => hne h.2.2.1

theorem resolveDirect_spec (cfg : Cfg) (s : Storage α) (d v : Nat) (h : Inv cfg s) :
    resolveDirect cfg s d v = .ok none s
    ∨ (∃ e, resolveDirect cfg s d v = .ok (some (e.slot, d)) s ∧ v = s.version
        ∧ s.ents[d]? = some e)
    ∨ (∃ msg, resolveDirect cfg s d v = .panic msg s ∧ cfg.debug = true
        ∧ s.len ≠ 0 ∧ v = s.version ∧ d ≥ s.len
        ∧ msg = "debug_assert: invalid entity handle") := by
  by_cases hc : v = s.version ∧ d < s.len
  · obtain ⟨rfl, hd⟩ := hc
    obtain ⟨_, hd⟩ := h.ents_get hd
    exact .inr (.inl ⟨_, resolveDirect_of_lt h hd, rfl, hd⟩)
  · rcases Out.miss_cases (resolveDirect_of_not hc) with h1 | ⟨h1, h2, h3, h4, h5⟩
    · exact .inl h1
    · exact .inr (.inr ⟨_, h1, h2, h3, h4, h5, rfl⟩)

theorem resolveDirect_not_ub (cfg : Cfg) (s : Storage α) (d v : Nat) (h : Inv cfg s) :
    ∀ m, resolveDirect cfg s d v ≠ .ub m := by
  intro m hm
  rcases resolveDirect_spec cfg s d v h with h1 | ⟨_, h1, _⟩ | ⟨_, h1, _⟩ <;>
    rw [h1] at hm <;> cases hm

theorem resolveDirect_iff (cfg : Cfg) (s : Storage α) (d v : Nat) (h : Inv cfg s) :
    (∃ si, resolveDirect cfg s d v = .ok (some (si, d)) s) ↔ (v = s.version ∧ d < s.len) := by
  constructor
  · rintro ⟨si, hsi⟩
    exact Decidable.by_contra fun hn => Out.miss_ne_some (resolveDirect_of_not hn) hsi
  · rintro ⟨rfl, hd⟩
    obtain ⟨_, he⟩ := h.ents_get hd
    exact ⟨_, resolveDirect_of_lt h he⟩

/-! ## The lookups read few fields

Both lookups hand the state back as it is, and what they answer depends on `debug`, `len`,
`capacity`, `slots`, the handle array (and `version`) only.  Clones, states with erased event
logs, other feature configurations: all agree on them.  (One `rw [if_pos _]` per guard of the
definition: `split` on a goal of this size is slow to check.) -/

def Out.withState {σ β : Type} (o : Out σ β) (s' : σ) : Out σ β :=
  match o with
  | .ok b _ => .ok b s'
  | .panic m _ => .panic m s'
  | .ub m => .ub m

theorem resolveEntity_congr {cfg cfg' : Cfg} {s s' : Storage α} (hdb : cfg'.debug = cfg.debug)
    (hl : s'.len = s.len) (hc : s'.capacity = s.capacity) (hs : s'.slots = s.slots)
    (he : s'.ents = s.ents) (e : Ent) :
    resolveEntity cfg' s' e = (resolveEntity cfg s e).withState s' := by
  unfold resolveEntity
  rw [hl, hc, hs, he, hdb]
  by_cases h0 : s.len = 0
  · rw [if_pos h0, if_pos h0]; rfl
  rw [if_neg h0, if_neg h0]
  by_cases hcap : e.slot ≥ s.capacity
  · rw [if_pos hcap, if_pos hcap]; cases cfg.debug <;> rfl
  rw [if_neg hcap, if_neg hcap]
  cases s.slots[e.slot]? with
  | none => rfl
  | some sl =>
    dsimp only
    by_cases hv : (sl.ver ≠ e.ver || sl.idx.isFree) = true
    · rw [if_pos hv, if_pos hv]; rfl
    rw [if_neg hv, if_neg hv]
    cases sl.idx with
    | free _ => rfl
    | freeEnd => rfl
    | data d =>
      dsimp only
      cases cfg.debug
      · rfl
      rw [if_pos rfl, if_pos rfl]
      by_cases hd : d < s.len
      · rw [if_pos hd, if_pos hd]
        cases s.ents[d]? with
        | none => rfl
        | some l =>
          dsimp only
          by_cases hle : l = e
          · rw [if_pos hle, if_pos hle]; rfl
          · rw [if_neg hle, if_neg hle]; rfl
      · rw [if_neg hd, if_neg hd]; rfl

theorem resolveDirect_congr {cfg cfg' : Cfg} {s s' : Storage α} (hdb : cfg'.debug = cfg.debug)
    (hl : s'.len = s.len) (hv : s'.version = s.version) (hc : s'.capacity = s.capacity)
    (hs : s'.slots = s.slots) (he : s'.ents = s.ents) (d v : Nat) :
    resolveDirect cfg' s' d v = (resolveDirect cfg s d v).withState s' := by
  unfold resolveDirect
  rw [hl, hc, hs, he, hv, hdb]
  by_cases h0 : s.len = 0
  · rw [if_pos h0, if_pos h0]; rfl
  rw [if_neg h0, if_neg h0]
  by_cases hv : v ≠ s.version
  · rw [if_pos hv, if_pos hv]; rfl
  rw [if_neg hv, if_neg hv]
  by_cases hd : d ≥ s.len
  · rw [if_pos hd, if_pos hd]; cases cfg.debug <;> rfl
  rw [if_neg hd, if_neg hd]
  cases s.ents[d]? with
  | none => rfl
  | some t =>
    dsimp only
    cases cfg.debug
    · rfl
    rw [if_pos rfl, if_pos rfl]
    by_cases hc : t.slot < s.capacity
    · rw [if_pos hc, if_pos hc]
      cases s.slots[t.slot]? with
      | none => rfl
      | some sl =>
        dsimp only
        by_cases hm : sl.ver = t.ver ∧ sl.idx.isFree = false
        · rw [if_pos hm, if_pos hm]; rfl
        · rw [if_neg hm, if_neg hm]; rfl
    · rw [if_neg hc, if_neg hc]; rfl

/-! ## `push` / `push_within_capacity` -/

theorem push_eq (cfg : Cfg) (g : Nat → Nat) (s : Storage α) (row : List α) :
    push cfg g s row =
      if s.len < s.capacity then forceCreate cfg s row
      else if s.capacity ≥ cfg.maxCap then .panic "capacity overflow" s
      else forceCreate cfg (s.grown (g s.capacity)) row := by
  unfold push
  by_cases h : s.len < s.capacity
  · rw [if_neg (Nat.not_le.mpr h), if_pos h]
  · rw [if_pos (Nat.not_lt.mp h), if_neg h, grow_eq]
    by_cases hc : s.capacity ≥ cfg.maxCap
    · rw [if_pos hc, if_pos hc]
    · rw [if_neg hc, if_neg hc]

/-- Inversion of a successful `push`: no case analysis on fullness is left to the caller. -/
theorem push_created {cfg : Cfg} {g : Nat → Nat} {s s' : Storage α} {row : List α} {e : Ent}
    (h : Inv cfg s)
    (hg : s.capacity < cfg.maxCap → s.capacity < g s.capacity ∧ g s.capacity ≤ cfg.maxCap)
    (hok : push cfg g s row = .ok e s') :
    Created cfg s row e s'
      ∧ s'.capacity = if s.len < s.capacity then s.capacity else g s.capacity := by
  rw [push_eq] at hok
  by_cases hlt : s.len < s.capacity
  · rw [if_pos hlt] at hok ⊢
    exact forceCreate_created h hok
  rw [if_neg hlt] at hok ⊢
  by_cases hc : s.capacity ≥ cfg.maxCap
  · rw [if_pos hc] at hok; cases hok
  rw [if_neg hc] at hok
  have hcap : s.len = s.capacity := Nat.le_antisymm h.lenCap (Nat.not_lt.mp hlt)
  have hgc := hg (Nat.not_le.mp hc)
  -- everything but `slots`, `freeHead`, `capacity` of `s.grown _` is that of `s` by `rfl`
  obtain ⟨c, hc'⟩ := forceCreate_created (h.grown hcap hgc.1 hgc.2) hok
  have hold {i : Nat} {sl : Slot} (hi : s.slots[i]? = some sl) :
      (s.grown (g s.capacity)).slots[i]? = some sl :=
    (grown_slots_lt h hcap hgc.1 (h.slot_lt hi)).trans hi
  exact ⟨{ c with cap := Nat.le_trans (Nat.le_of_lt hgc.1) c.cap
                  frame := fun i sl hne hi => c.frame i sl hne (hold hi)
                  wasFree := fun sl hsl => c.wasFree sl (hold hsl) }, hc'⟩

theorem pushWithin_created {cfg : Cfg} {s s' : Storage α} {row : List α} {e : Ent}
    (h : Inv cfg s) (hok : pushWithin cfg s row = .ok (some e) s') :
    Created cfg s row e s' ∧ s'.capacity = s.capacity := by
  unfold pushWithin at hok
  split at hok
  · cases hok
  · split at hok
    · rename_i hfc
      cases hok
      exact forceCreate_created h hfc
    · cases hok
    · cases hok

theorem push_ok_iff {cfg : Cfg} {g : Nat → Nat} {s : Storage α} {row : List α} (h : Inv cfg s)
    (hg : s.capacity < cfg.maxCap → s.capacity < g s.capacity ∧ g s.capacity ≤ cfg.maxCap) :
    (∃ e s', push cfg g s row = .ok e s') ↔ s.len < cfg.maxCap := by
  constructor
  · rintro ⟨e, s', hok⟩
    have c := (push_created h hg hok).1
    have hle := c.inv.len_le_maxCap
    rw [c.len] at hle
    exact hle
  · intro hlt
    rw [push_eq]
    by_cases hroom : s.len < s.capacity
    · rw [if_pos hroom]
      exact forceCreate_ok row h hroom
    · have hcap : s.len = s.capacity := Nat.le_antisymm h.lenCap (Nat.not_lt.mp hroom)
      have hgc := hg (hcap ▸ hlt)
      rw [if_neg hroom, if_neg (Nat.not_le.mpr (hcap ▸ hlt))]
      exact forceCreate_ok row (h.grown hcap hgc.1 hgc.2) (show s.len < g s.capacity from hcap ▸ hgc.1)

theorem push_overflow (cfg : Cfg) (g : Nat → Nat) (s : Storage α) (row : List α)
    (h : Inv cfg s) (hfull : s.len = cfg.maxCap) :
    s.capacity = cfg.maxCap ∧ push cfg g s row = .panic "capacity overflow" s := by
  have hcap : s.capacity = cfg.maxCap := Nat.le_antisymm h.capMax (hfull ▸ h.lenCap)
  refine ⟨hcap, ?_⟩
  rw [push_eq, if_neg (by omega), if_pos (Nat.le_of_eq hcap.symm)]

theorem pushWithin_ok_iff {cfg : Cfg} {s : Storage α} {row : List α} (h : Inv cfg s) :
    (∃ e s', pushWithin cfg s row = .ok (some e) s') ↔ s.len < s.capacity := by
  unfold pushWithin
  constructor
  · rintro ⟨e, s', hok⟩
    split at hok
    · cases hok
    · omega
  · intro hlt
    obtain ⟨e, s', hok⟩ := forceCreate_ok row h hlt
    exact ⟨e, s', by rw [if_neg (by omega), hok]⟩

theorem push_ok {cfg : Cfg} {g : Nat → Nat} {s : Storage α} (row : List α) (h : Inv cfg s)
    (hg : s.capacity < cfg.maxCap → s.capacity < g s.capacity ∧ g s.capacity ≤ cfg.maxCap)
    (hlt : s.len < cfg.maxCap) :
    ∃ e s', push cfg g s row = .ok e s' ∧ Created cfg s row e s'
      ∧ s'.capacity = if s.len < s.capacity then s.capacity else g s.capacity := by
  obtain ⟨e, s', hok⟩ := (push_ok_iff h hg).mpr hlt
  exact ⟨e, s', hok, push_created h hg hok⟩

theorem push_spec {cfg : Cfg} {g : Nat → Nat} {s : Storage α} (row : List α) (h : Inv cfg s)
    (hg : s.capacity < cfg.maxCap → s.capacity < g s.capacity ∧ g s.capacity ≤ cfg.maxCap) :
    (s.len < cfg.maxCap ∧ ∃ e s', push cfg g s row = .ok e s' ∧ Created cfg s row e s')
    ∨ (s.len = cfg.maxCap ∧ push cfg g s row = .panic "capacity overflow" s) := by
  by_cases hlt : s.len < cfg.maxCap
  · obtain ⟨e, s', hok, c, _⟩ := push_ok row h hg hlt
    exact .inl ⟨hlt, e, s', hok, c⟩
  · have hfull := Nat.le_antisymm h.len_le_maxCap (Nat.not_lt.mp hlt)
    exact .inr ⟨hfull, (push_overflow cfg g s row h hfull).2⟩

theorem push_not_ub (cfg : Cfg) (g : Nat → Nat) (s : Storage α) (row : List α) (h : Inv cfg s)
    (hv : CfgOk cfg)
    (hg : s.capacity < cfg.maxCap → s.capacity < g s.capacity ∧ g s.capacity ≤ cfg.maxCap) :
    ∀ m, push cfg g s row ≠ .ub m := by
  intro m hm
  rcases push_spec row h hg with ⟨_, _, _, h1, _⟩ | ⟨_, h1⟩ <;> rw [h1] at hm <;> cases hm

theorem pushWithin_ok {cfg : Cfg} {s : Storage α} (row : List α) (h : Inv cfg s)
    (hlt : s.len < s.capacity) :
    ∃ e s', pushWithin cfg s row = .ok (some e) s' ∧ Created cfg s row e s'
      ∧ s'.capacity = s.capacity := by
  obtain ⟨e, s', hok⟩ := (pushWithin_ok_iff h).mpr hlt
  exact ⟨e, s', hok, pushWithin_created h hok⟩

/-! ## `resolve_destroy` -/

/-- What both `resolve_destroy` implementations do with the answer of their lookup. -/
def destroyAfter (cfg : Cfg) (s : Storage α) :
    Out (Storage α) (Option (Nat × Nat)) → Out (Storage α) (Option (List α))
  | .ok (some (si, d)) _ =>
    (match forceDestroy cfg s si d with
    | .ok r s' => .ok (some r) s'
    | .panic m s' => .panic m s'
    | .ub m => .ub m)
  | .ok none _ => .ok none s
  | .panic m s' => .panic m s'
  | .ub m => .ub m

theorem destroyEnt_eq (cfg : Cfg) (s : Storage α) (e : Ent) :
    destroyEnt cfg s e = destroyAfter cfg s (resolveEntity cfg s e) := rfl

theorem destroyDirect_eq (cfg : Cfg) (s : Storage α) (d v : Nat) :
    destroyDirect cfg s d v = destroyAfter cfg s (resolveDirect cfg s d v) := rfl

theorem destroyAfter_miss (cfg : Cfg) (s : Storage α) (P : Prop) [Decidable P] :
    destroyAfter cfg s (Out.miss s P) = Out.miss s P := by
  unfold Out.miss; split <;> rfl

/-- The panics of `resolve_destroy` are the debug range assertion of the lookup and the two generation
overflows of `force_destroy`. -/
theorem destroyEnt_spec (cfg : Cfg) (s : Storage α) (e : Ent) (h : Inv cfg s) :
    (destroyEnt cfg s e = .ok none s ∧ e ∉ s.ents)
    ∨ (∃ d row s', destroyEnt cfg s e = .ok (some row) s' ∧ Removed cfg s d e row s')
    ∨ (∃ msg, destroyEnt cfg s e = .panic msg s
        ∧ ((cfg.debug = true ∧ e ∉ s.ents ∧ e.slot ≥ s.capacity)
          ∨ (e ∈ s.ents ∧ (nextVer cfg e.ver = none ∨ nextVer cfg s.version = none)))) := by
  rw [destroyEnt_eq]
  by_cases hm : e ∈ s.ents
  · obtain ⟨d, hd⟩ := List.getElem?_of_mem hm
    rw [resolveEntity_of_mem h hd, destroyAfter]
    rcases forceDestroy_outcome h hd with ⟨row, s', hok, r⟩ | ⟨hp, hn⟩ | ⟨hp, hn⟩
    · exact .inr (.inl ⟨d, row, s', by rw [hok], r⟩)
    · exact .inr (.inr ⟨_, by rw [hp], .inr ⟨hm, .inl hn⟩⟩)
    · exact .inr (.inr ⟨_, by rw [hp], .inr ⟨hm, .inr hn⟩⟩)
  · rw [resolveEntity_of_not_mem h hm, destroyAfter_miss]; unfold Out.miss; split
    · rename_i hP; exact .inr (.inr ⟨_, rfl, .inl ⟨hP.1, hm, hP.2.2⟩⟩)
    · exact .inl ⟨rfl, hm⟩

theorem destroyEnt_not_ub (cfg : Cfg) (s : Storage α) (e : Ent) (h : Inv cfg s) :
    ∀ m, destroyEnt cfg s e ≠ .ub m := by
  intro m hm
  rcases destroyEnt_spec cfg s e h with ⟨h1, _⟩ | ⟨_, _, _, h1, _⟩ | ⟨_, h1, _⟩ <;>
    rw [h1] at hm <;> cases hm

theorem destroyEnt_panic_state {cfg : Cfg} {s s' : Storage α} {e : Ent} {msg : String}
    (h : Inv cfg s) (hp : destroyEnt cfg s e = .panic msg s') : s' = s := by
  rcases destroyEnt_spec cfg s e h with ⟨h1, _⟩ | ⟨_, _, _, h1, _⟩ | ⟨_, h1, _⟩ <;>
    rw [h1] at hp <;> cases hp
  rfl

theorem destroyDirect_spec (cfg : Cfg) (s : Storage α) (d v : Nat) (h : Inv cfg s) :
    (destroyDirect cfg s d v = .ok none s ∧ ¬ (v = s.version ∧ d < s.len))
    ∨ (∃ t row s', destroyDirect cfg s d v = .ok (some row) s' ∧ v = s.version
        ∧ Removed cfg s d t row s')
    ∨ (∃ msg, destroyDirect cfg s d v = .panic msg s
        ∧ ((cfg.debug = true ∧ v = s.version ∧ d ≥ s.len ∧ s.len ≠ 0)
          ∨ (∃ e, v = s.version ∧ s.ents[d]? = some e
              ∧ (nextVer cfg e.ver = none ∨ nextVer cfg s.version = none)))) := by
  rw [destroyDirect_eq]
  by_cases hc : v = s.version ∧ d < s.len
  · obtain ⟨rfl, hd⟩ := hc
    obtain ⟨_, hd⟩ := h.ents_get hd
    rw [resolveDirect_of_lt h hd, destroyAfter]
    rcases forceDestroy_outcome h hd with ⟨row, s', hok, r⟩ | ⟨hp, hn⟩ | ⟨hp, hn⟩
    · exact .inr (.inl ⟨_, row, s', by rw [hok], rfl, r⟩)
    · exact .inr (.inr ⟨_, by rw [hp], .inr ⟨_, rfl, hd, .inl hn⟩⟩)
    · exact .inr (.inr ⟨_, by rw [hp], .inr ⟨_, rfl, hd, .inr hn⟩⟩)
  · rw [resolveDirect_of_not hc, destroyAfter_miss]; unfold Out.miss; split
    · rename_i hP; exact .inr (.inr ⟨_, rfl, .inl ⟨hP.1, hP.2.2.1, hP.2.2.2, hP.2.1⟩⟩)
    · exact .inl ⟨rfl, hc⟩

theorem destroyDirect_not_ub (cfg : Cfg) (s : Storage α) (d v : Nat) (h : Inv cfg s) :
    ∀ m, destroyDirect cfg s d v ≠ .ub m := by
  intro m hm
  rcases destroyDirect_spec cfg s d v h with ⟨h1, _⟩ | ⟨_, _, _, h1, _⟩ | ⟨_, h1, _⟩ <;>
    rw [h1] at hm <;> cases hm

theorem destroyDirect_panic_state {cfg : Cfg} {s s' : Storage α} {d v : Nat} {msg : String}
    (h : Inv cfg s) (hp : destroyDirect cfg s d v = .panic msg s') : s' = s := by
  rcases destroyDirect_spec cfg s d v h with ⟨h1, _⟩ | ⟨_, _, _, h1, _⟩ | ⟨_, h1, _⟩ <;>
    rw [h1] at hp <;> cases hp
  rfl

namespace Removed
variable {cfg : Cfg} {s s' : Storage α} {d : Nat} {t : Ent} {row : List α}

theorem of_destroyEnt {e : Ent} (h : Inv cfg s) (hok : destroyEnt cfg s e = .ok (some row) s') :
    ∃ d, Removed cfg s d e row s' := by
  rcases destroyEnt_spec cfg s e h with ⟨h1, _⟩ | ⟨d, _, _, h1, r⟩ | ⟨_, h1, _⟩ <;>
    rw [h1] at hok <;> cases hok
  exact ⟨d, r⟩

theorem of_destroyDirect {v : Nat} (h : Inv cfg s)
    (hok : destroyDirect cfg s d v = .ok (some row) s') :
    v = s.version ∧ ∃ t, Removed cfg s d t row s' := by
  rcases destroyDirect_spec cfg s d v h with ⟨h1, _⟩ | ⟨t, _, _, h1, hv, r⟩ | ⟨_, h1, _⟩ <;>
    rw [h1] at hok <;> cases hok
  exact ⟨hv, t, r⟩

end Removed

/-! ## Derived resolvers (`resolve_for`, `resolve_direct` of `StorageCanResolve`)

On a live key the continuation runs on `(slot, dense index)`; on any other key the outcome is the
lookup's own miss. -/

/-- What both `resolve_for` implementations do with the answer of their lookup. -/
def resolveForAfter (cfg : Cfg) (s : Storage α) :
    Out (Storage α) (Option (Nat × Nat)) → Out (Storage α) (Option Nat)
  | .ok (some (_, d)) _ =>
    if s.len ≤ cfg.maxCap ∧ d ≤ s.len then .ok (some d) s
    else if cfg.debug then .panic "debug_checked_assume" s
    else .ub "resolve_for: debug_checked_assume violated"
  | .ok none _ => .ok none s
  | .panic m s' => .panic m s'
  | .ub m => .ub m

theorem resolveForEnt_eq (cfg : Cfg) (s : Storage α) (e : Ent) :
    resolveForEnt cfg s e = resolveForAfter cfg s (resolveEntity cfg s e) := rfl

theorem resolveForDirect_eq (cfg : Cfg) (s : Storage α) (d v : Nat) :
    resolveForDirect cfg s d v = resolveForAfter cfg s (resolveDirect cfg s d v) := rfl

theorem resolveForAfter_miss (cfg : Cfg) (s : Storage α) (P : Prop) [Decidable P] :
    resolveForAfter cfg s (Out.miss s P) = Out.miss s P := by
  unfold Out.miss; split <;> rfl

theorem resolveForEnt_of_mem {cfg : Cfg} {s : Storage α} (h : Inv cfg s) {d : Nat} {e : Ent}
    (hd : s.ents[d]? = some e) : resolveForEnt cfg s e = .ok (some d) s := by
  rw [resolveForEnt_eq, resolveEntity_of_mem h hd, resolveForAfter,
    if_pos ⟨h.len_le_maxCap, Nat.le_of_lt (h.ents_lt hd)⟩]

theorem resolveForEnt_of_not_mem {cfg : Cfg} {s : Storage α} {e : Ent} (h : Inv cfg s)
    (hn : e ∉ s.ents) :
    resolveForEnt cfg s e = Out.miss s (cfg.debug = true ∧ s.len ≠ 0 ∧ e.slot ≥ s.capacity) := by
  rw [resolveForEnt_eq, resolveEntity_of_not_mem h hn, resolveForAfter_miss]

theorem toDirectEnt_of_mem {cfg : Cfg} {s : Storage α} (h : Inv cfg s) {d : Nat} {e : Ent}
    (hd : s.ents[d]? = some e) : toDirectEnt cfg s e = .ok (some (d, s.version)) s := by
  rw [toDirectEnt, resolveEntity_of_mem h hd]

theorem toDirectEnt_of_not_mem {cfg : Cfg} {s : Storage α} {e : Ent} (h : Inv cfg s)
    (hn : e ∉ s.ents) :
    toDirectEnt cfg s e = Out.miss s (cfg.debug = true ∧ s.len ≠ 0 ∧ e.slot ≥ s.capacity) := by
  rw [toDirectEnt, resolveEntity_of_not_mem h hn]
  unfold Out.miss
  by_cases hP : cfg.debug = true ∧ s.len ≠ 0 ∧ e.slot ≥ s.capacity
  · rw [if_pos hP]
  · rw [if_neg hP]

theorem resolveForDirect_of_lt {cfg : Cfg} {s : Storage α} (h : Inv cfg s) {d : Nat}
    (hd : d < s.len) : resolveForDirect cfg s d s.version = .ok (some d) s := by
  obtain ⟨_, he⟩ := h.ents_get hd
  rw [resolveForDirect_eq, resolveDirect_of_lt h he, resolveForAfter,
    if_pos ⟨h.len_le_maxCap, Nat.le_of_lt hd⟩]

theorem resolveForDirect_of_not {cfg : Cfg} {s : Storage α} {d v : Nat}
    (hn : ¬ (v = s.version ∧ d < s.len)) :
    resolveForDirect cfg s d v
      = Out.miss s (cfg.debug = true ∧ s.len ≠ 0 ∧ v = s.version ∧ d ≥ s.len) := by
  rw [resolveForDirect_eq, resolveDirect_of_not hn, resolveForAfter_miss]

theorem toDirectDirect_of_lt {cfg : Cfg} {s : Storage α} (h : Inv cfg s) {d : Nat}
    (hd : d < s.len) : toDirectDirect cfg s d s.version = .ok (some (d, s.version)) s := by
  obtain ⟨_, he⟩ := h.ents_get hd
  rw [toDirectDirect, resolveDirect_of_lt h he]

theorem toDirectDirect_of_not {cfg : Cfg} {s : Storage α} {d v : Nat}
    (hn : ¬ (v = s.version ∧ d < s.len)) :
    toDirectDirect cfg s d v
      = Out.miss s (cfg.debug = true ∧ s.len ≠ 0 ∧ v = s.version ∧ d ≥ s.len) := by
  rw [toDirectDirect, resolveDirect_of_not hn]
  unfold Out.miss
  by_cases hP : cfg.debug = true ∧ s.len ≠ 0 ∧ v = s.version ∧ d ≥ s.len
  · rw [if_pos hP]
  · rw [if_neg hP]

/-! ## Component access (`writeCell`, `readRow`), `clear_events` and the harness hook
`verif_preset_versions` under `Inv` -/

theorem writeCell_inv {cfg : Cfg} {s : Storage α} {d c : Nat} {x : α} (h : Inv cfg s) :
    Inv cfg (writeCell s d c x) := by
  refine { h with colsLen := ?_ }
  intro col hcol
  simp only [writeCell] at hcol
  obtain ⟨j, hj⟩ := List.getElem?_of_mem hcol
  rw [List.getElem?_modify] at hj
  cases hsj : s.cols[j]? with
  | none => rw [hsj] at hj; cases hj
  | some c0 =>
    rw [hsj] at hj
    have hc0 := h.colsLen c0 (List.mem_of_getElem? hsj)
    simp only [Option.map_eq_map, Option.map_some, Option.some.injEq] at hj
    subst hj
    split <;> simp [hc0, writeCell]

theorem writeCell_cols_length (s : Storage α) (d c : Nat) (x : α) :
    (writeCell s d c x).cols.length = s.cols.length :=
  List.length_modify ..

theorem clearEvents_inv {cfg : Cfg} {s : Storage α} (h : Inv cfg s) :
    Inv cfg (clearEvents s) :=
  { h with }

theorem presetVersions_inv {cfg : Cfg} {s s' : Storage α} {sv av : Nat}
    (hp : presetVersions s sv av = some s') (h : Inv cfg s)
    (hsv : sv ≤ cfg.vmax) (hav : av ≤ cfg.vmax) : Inv cfg s' := by
  unfold presetVersions at hp
  split at hp
  · rename_i hc
    obtain ⟨h0, h1, h2⟩ := hc
    cases hp
    have hents : s.ents = [] := List.eq_nil_of_length_eq_zero (h.entsLen.trans h0)
    have hget : ∀ (i : Nat) (sl' : Slot), (s.slots.map fun sl => { sl with ver := sv })[i]? = some sl' →
        ∃ sl : Slot, s.slots[i]? = some sl ∧ sl' = ⟨sl.idx, sv⟩ := by
      intro i sl' hi
      rw [List.getElem?_map] at hi
      obtain ⟨sl, hsl, rfl⟩ := Option.map_eq_some_iff.mp hi
      exact ⟨sl, hsl, rfl⟩
    obtain ⟨L, hc, hnd, hlen⟩ := h.chain
    exact {
      slotsLen := List.length_map _ |>.trans h.slotsLen
      entsLen := h.entsLen, colsLen := h.colsLen, lenCap := h.lenCap, capMax := h.capMax
      archVer := ⟨h2, hav⟩
      chain := ⟨L, hc.map_ver sv, hnd, hlen⟩
      dense := fun d e he => by rw [show s.ents = [] from hents] at he; cases he
      sparse := fun i d v hi => by
        -- the storage is empty, so no old slot is a data slot
        obtain ⟨⟨idx, ver⟩, hsl, heq⟩ := hget i _ hi
        cases heq
        have := h.sparse i d ver hsl
        rw [hents] at this; cases this
      verPos := fun i sl' hi => by
        obtain ⟨sl, _, rfl⟩ := hget i _ hi
        exact ⟨h1, hsv⟩ }
  · cases hp

theorem readRow_of_lt {cfg : Cfg} {s : Storage α} (h : Inv cfg s) {d : Nat} (hd : d < s.len) :
    readRow s d = some (s.cols.filterMap (·[d]?)) := by
  simp [readRow, hd, h.cols_all_len]

theorem readRow_of_ge {s : Storage α} {d : Nat} (hd : d ≥ s.len) : readRow s d = none := by
  simp [readRow, Nat.not_lt.mpr hd]

/-! ## `Clone` / `Drop for StorageN`

`refill` is what `clone_refill` (Values.lean) asks of the clone. -/

theorem cols_any_lt_false (cols : List (List α)) (n : Nat) (h : ∀ c ∈ cols, c.length = n) :
    cols.any (fun c => decide (c.length < n)) = false := by
  rw [List.any_eq_false]
  intro c hc; simp [h c hc]

/-- `take len` of a column of exactly `len` cells is the column, so the clone is the storage with
every cell cloned. -/
theorem cloneStorage_spec {cfg : Cfg} {s : Storage α} {cl : α → α} (h : Inv cfg s) :
    cloneStorage cl s = .ok { s with cols := s.cols.map (·.map cl) } s := by
  have hg : ¬ (s.slots.length < s.capacity ∨ s.ents.length < s.len
      ∨ (s.cols.any (fun c => decide (c.length < s.len))) = true) := by
    rw [cols_any_lt_false s.cols s.len h.colsLen, h.slotsLen, h.entsLen]
    simp
  unfold cloneStorage
  rw [if_neg hg]
  have h1 : s.slots.take s.capacity = s.slots :=
    List.take_of_length_le (by rw [h.slotsLen]; exact Nat.le_refl _)
  have h2 : s.ents.take s.len = s.ents :=
    List.take_of_length_le (by rw [h.entsLen]; exact Nat.le_refl _)
  have h3 : s.cols.map (fun c => (c.take s.len).map cl) = s.cols.map (·.map cl) := by
    apply List.map_congr_left
    intro c hc
    rw [List.take_of_length_le (by rw [h.colsLen c hc]; exact Nat.le_refl _)]
  rw [h1, h2, h3]

theorem cloneStorage_inv {cfg : Cfg} {s : Storage α} {cl : α → α} (h : Inv cfg s) :
    Inv cfg { s with cols := s.cols.map (·.map cl) } := by
  refine { h with colsLen := ?_ }
  intro c hc
  obtain ⟨c0, hc0, rfl⟩ := List.mem_map.mp hc
  rw [List.length_map]; exact h.colsLen c0 hc0

theorem flatMap_take_eq (cols : List (List α)) (n : Nat) (h : ∀ c ∈ cols, c.length = n) :
    cols.flatMap (fun c => c.take n) = cols.flatMap id := by
  rw [List.flatMap_def, List.flatMap_def]
  exact congrArg _ (List.map_congr_left fun c hc => List.take_of_length_le (Nat.le_of_eq (h c hc)))

theorem dropStorage_spec {cfg : Cfg} {s : Storage α} (h : Inv cfg s) :
    dropStorage s = .ok (s.cols.flatMap id) () := by
  unfold dropStorage
  rw [cols_any_lt_false s.cols s.len h.colsLen, if_neg Bool.false_ne_true,
    flatMap_take_eq s.cols s.len h.colsLen]

/-- `pushWithin` folded over a list of rows; collects the per-step results. -/
def pushWithinN (cfg : Cfg) : Storage α → List (List α) → Out (Storage α) (List (Option Ent))
  | s, [] => .ok [] s
  | s, row :: rows =>
    match pushWithin cfg s row with
    | .ok r s' =>
      (match pushWithinN cfg s' rows with
      | .ok rs s'' => .ok (r :: rs) s''
      | .panic m s'' => .panic m s''
      | .ub m => .ub m)
    | .panic m s' => .panic m s'
    | .ub m => .ub m

theorem refill (cfg : Cfg) (s : Storage α) (rows : List (List α)) (h : Inv cfg s)
    (hk : rows.length ≤ s.capacity - s.len) :
    ∃ es s', pushWithinN cfg s rows = .ok (es.map some) s' ∧ es.length = rows.length
      ∧ Inv cfg s' ∧ s'.len = s.len + rows.length ∧ s'.capacity = s.capacity
      ∧ s'.ents = s.ents ++ es ∧ s'.version = s.version := by
  induction rows generalizing s with
  | nil => exact ⟨[], s, rfl, rfl, h, rfl, rfl, by simp, rfl⟩
  | cons row rows ih =>
    simp only [List.length_cons] at hk
    have hlt : s.len < s.capacity := by omega
    obtain ⟨e, s1, hok, c, hcap1⟩ := pushWithin_ok row h hlt
    obtain ⟨es, s2, hok2, hl2, hinv2, hlen2, hcap2, hents2, hver2⟩ :=
      ih s1 c.inv (by rw [c.len, hcap1]; omega)
    refine ⟨e :: es, s2, ?_, by simp [hl2], hinv2, ?_, by rw [hcap2, hcap1], ?_,
      by rw [hver2, c.version]⟩
    · simp [pushWithinN, hok, hok2]
    · rw [hlen2, c.len]; simp only [List.length_cons]; omega
    · rw [hents2, c.ents]; simp

/-- After the storage is full, further `push_within_capacity` calls return `Err`. -/
theorem pushWithin_full {cfg : Cfg} {s : Storage α} (row : List α) (hfull : s.len ≥ s.capacity) :
    pushWithin cfg s row = .ok none s := by
  simp [pushWithin, hfull]

/-! ## Non-vacuity on the 3-slot storage with one hole (`holeEx`) -/
namespace StorageEx

-- the live handle in slot 2 resolves to dense index 1; a stale generation does not
example : resolveEntity cfgEx holeEx ⟨2, 1⟩ = .ok (some (2, 1)) holeEx :=
  resolveEntity_of_mem holeEx_inv (d := 1) rfl
example : resolveEntity cfgEx holeEx ⟨1, 1⟩ = .ok none holeEx := rfl
example : ∃ m, resolveEntity cfgEx holeEx ⟨7, 1⟩ = .panic m holeEx := ⟨_, rfl⟩
example : (⟨1, 2⟩ : Ent) ∉ holeEx.ents := by decide
example : resolveDirect cfgEx holeEx 1 2 = .ok (some (2, 1)) holeEx :=
  resolveDirect_of_lt holeEx_inv (d := 1) rfl

-- one refill step is possible (capacity 3, len 2), then the storage is full
example : ∃ (es : List Ent) (s' : Storage Nat),
    pushWithinN cfgEx holeEx [[13, 23]] = .ok (es.map some) s'
    ∧ es.length = 1 ∧ Inv cfgEx s' ∧ s'.len = 3 := by
  obtain ⟨es, s', h1, h2, h3, h4, _⟩ := refill cfgEx holeEx [[13, 23]] holeEx_inv (by decide)
  exact ⟨es, s', h1, h2, h3, h4⟩

-- push at the limit: a full storage at `maxCap`
def cfgTiny : Cfg := ⟨2, 5, false, true, true⟩

theorem fullEx_inv_tiny : Inv cfgTiny fullEx :=
  { fullEx_inv with capMax := by decide }

example : push cfgTiny (codeGrowth cfgTiny) fullEx [12] = .panic "capacity overflow" fullEx :=
  (push_overflow cfgTiny _ fullEx [12] fullEx_inv_tiny rfl).2

example : ∃ e s', push cfgEx (codeGrowth cfgEx) fullEx [12] = .ok e s' ∧ Inv cfgEx s'
    ∧ s'.len = 3 ∧ s'.capacity = 6 := by
  obtain ⟨e, s', h1, c, hcap⟩ :=
    push_ok (g := codeGrowth cfgEx) [12] fullEx_inv (fun hh => codeGrowth_ok cfgEx _ hh)
      (by decide : fullEx.len < cfgEx.maxCap)
  exact ⟨e, s', h1, c.inv, c.len, by rw [hcap]; decide⟩

example : ∃ row s', destroyEnt cfgEx holeEx ⟨0, 1⟩ = .ok (some row) s' ∧ Inv cfgEx s' := by
  rcases destroyEnt_spec cfgEx holeEx ⟨0, 1⟩ holeEx_inv with ⟨_, h2⟩ | ⟨d, row, s', h1, r⟩
    | ⟨m, _, h2⟩
  · exact absurd h2 (by decide)
  · exact ⟨row, s', h1, r.inv⟩
  · exact absurd h2 (by decide)

-- a handle with a stale generation is refused, the state is unchanged
example : destroyEnt cfgEx holeEx ⟨1, 1⟩ = .ok none holeEx := rfl

example : Inv cfgEx (writeCell holeEx 1 0 99) := writeCell_inv holeEx_inv
example : (writeCell holeEx 1 0 99).cols = [[10, 99], [20, 22]] := rfl
example : Inv cfgEx (clearEvents holeEx) := clearEvents_inv holeEx_inv
example : dropStorage holeEx = .ok [10, 12, 20, 22] () := by
  rw [dropStorage_spec holeEx_inv]; rfl
example : cloneStorage (· + 1) holeEx
    = .ok { holeEx with cols := [[11, 13], [21, 23]] } holeEx := by
  rw [cloneStorage_spec holeEx_inv]; rfl
example : readRow holeEx 1 = some [12, 22] := by
  rw [readRow_of_lt holeEx_inv (by decide)]; rfl

example : ∃ s s' : Storage Nat, withCapacity cfgEx 1 2 = .ok () s
    ∧ presetVersions s 5 4 = some s' ∧ Inv cfgEx s' ∧ s'.version = 4 :=
  ⟨_, _, withCapacity_eq cfgEx 1 2 (by decide), rfl,
    presetVersions_inv (sv := 5) (av := 4) rfl (withCapacity_inv cfgEx 1 2 (by decide) cfgEx_ok)
      (by decide) (by decide), rfl⟩

end StorageEx
end Gecs

section
open Gecs
#print axioms push_spec
#print axioms resolveEntity_spec
#print axioms resolveEntity_of_mem
#print axioms resolveEntity_of_not_mem
#print axioms resolveEntity_not_ub
#print axioms resolveEntity_iff_mem
#print axioms resolveDirect_spec
#print axioms resolveDirect_iff
#print axioms resolveDirect_of_not
#print axioms resolveDirect_not_ub
#print axioms push_ok
#print axioms push_overflow
#print axioms push_not_ub
#print axioms pushWithin_ok
#print axioms destroyEnt_spec
#print axioms destroyEnt_not_ub
#print axioms destroyDirect_spec
#print axioms destroyDirect_not_ub
#print axioms resolveForEnt_of_mem
#print axioms resolveForEnt_of_not_mem
#print axioms toDirectEnt_of_mem
#print axioms toDirectEnt_of_not_mem
#print axioms resolveForDirect_of_lt
#print axioms resolveForDirect_of_not
#print axioms toDirectDirect_of_lt
#print axioms toDirectDirect_of_not
#print axioms writeCell_inv
#print axioms clearEvents_inv
#print axioms presetVersions_inv
#print axioms readRow_of_lt
#print axioms cloneStorage_spec
#print axioms cloneStorage_inv
#print axioms dropStorage_spec
#print axioms refill
end
