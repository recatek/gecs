/-
Tie of the statement lists TRANSLATED from src/archetype/storage.rs / slot.rs on every run
(Gecs/Gen/Steps.lean) to the hand-written primitives of Model/Storage.lean: running the
extracted statements in source order, with the meaning Model/Steps.lean gives to each
statement, IS `forceCreate` / `forceDestroy` / `grow` — results, final states and the states
left behind by the two overflow panics included.  The proofs are by symbolic execution of the
concrete lists, so a re-ordering of independent statements in the Rust code still checks, while
one that moves a `next()` behind a mutation, reads a slot after overwriting it, or updates
`len` before the writes that use it, does not.

Hypotheses: `DenseOk` (handles and columns initialised exactly up to `len`) and, for
`force_destroy`, `d < len` — the `# Safety` contract of the two functions, which every caller in
the model establishes from `Inv` (`Lemmas/Inv.lean`); `grow` needs `len ≤ capacity`.
-/
import Gecs.Gen.Steps

namespace Gecs

variable {α : Type}

/-- The part of the representation invariant the callers of the `force_*` primitives
guarantee for the dense arrays: handles and every column are initialised exactly up to `len`. -/
def DenseOk (s : Storage α) : Prop :=
  s.ents.length = s.len ∧ ∀ c ∈ s.cols, c.length = s.len

theorem denseOk_colsAll (s : Storage α) (hok : DenseOk s) :
    (s.cols.all (fun c => c.length == s.len)) = true := by
  simp only [List.all_eq_true, beq_iff_eq]; exact hok.2

theorem denseOk_colsAny (s : Storage α) (hok : DenseOk s) :
    (s.cols.any (fun c => c.length != s.len)) = false := by
  simp only [List.any_eq_false, bne_iff_ne, ne_eq, Decidable.not_not]; exact hok.2

/-- `StorageN::grow`, statement by statement, is the model's `grow` (`none` = `return false`). -/
theorem gen_steps_grow (cfg : Cfg) (s : Storage α) (nc : Nat) (hle : s.len ≤ s.capacity) :
    execGrow cfg Gen.growSteps s nc = .ok (grow cfg s nc) () := by
  unfold execGrow grow Gen.growSteps
  by_cases hroom : s.capacity ≥ cfg.maxCap
  · simp [runG, gstep, hroom]
  · have hl : s.len < cfg.maxCap := Nat.lt_of_le_of_lt hle (Nat.lt_of_not_le hroom)
    simp [runG, gstep, hroom, hl]

/-- The `#[cfg(feature = "events")]` pushes are conditional updates of one field: with these a list
is run once, not once per value of `cfg.events`. -/
theorem SR.ite_cont {σ ε : Type} (c : Prop) [Decidable c] (s t : σ) (e : ε) :
    (if c then SR.cont s e else SR.cont t e) = SR.cont (if c then s else t) e := by
  split <;> rfl

theorem Storage.ite_destroyed (c : Prop) [Decidable c] (s : Storage α) (x : List Ent) :
    (if c then { s with destroyed := x } else s) = { s with destroyed := if c then x else s.destroyed } := by
  split <;> rfl

/-- `StorageN::force_create`, statement by statement, is the model's `forceCreate`. -/
theorem gen_steps_force_create (cfg : Cfg) (s : Storage α) (row : List α) (hok : DenseOk s) :
    Out.same (execCreate cfg Gen.slotBodies Gen.forceCreateSteps s row) (forceCreate cfg s row) := by
  have hall := denseOk_colsAll s hok
  have hlen := hok.1
  unfold execCreate forceCreate Gen.forceCreateSteps Gen.slotBodies Gen.slotAssign Gen.slotRelease
  cases hfh : s.freeHead with
  | data i => simp [runC, cstep, hfh, Out.same]
  | freeEnd => simp [runC, cstep, hfh, Out.same]
  | free si =>
    by_cases hcap : s.len < cfg.maxCap
    · cases hsl : s.slots[si]? with
      | none =>
        have hge : ¬ si < s.slots.length := Nat.not_lt.mpr (List.getElem?_eq_none_iff.mp hsl)
        simp [runC, cstep, hfh, hcap, hge, Out.same]
      | some sl =>
        -- both sides then read the slot as `s.slots[si]`
        have hlt : si < s.slots.length := (List.getElem?_eq_some_iff.mp hsl).1
        simp [runC, cstep, hfh, hcap, hlt, SR.ite_cont, Out.same, applySlotSets, applySlotSet, writeAt, writeCols,
          hlen, hall]
        -- left: the two states, one per value of `cfg.events`, against the model's one with `created` conditional
        cases cfg.events <;> rfl
    · cases hsl : s.slots[si]? <;> simp [runC, cstep, hfh, hcap, hsl, Out.same]

/-! Symbolic execution of `force_destroy`.  `runD_cons` carries the interpreter's own guard
(`returned = false`) as a hypothesis: `simp` can discharge it only for an environment it knows, so it
steps through the list as far as the facts at hand decide the statements and leaves the rest of the
list folded behind the first `match` it cannot decide; the proof splits on that scrutinee and goes on
from there instead of running the list from its head in every case. -/

theorem runD_cons {cfg : Cfg} {b : SlotBodies} {si d : Nat} {st : DStep} {rest : List DStep}
    {s : Storage α} {e : DEnv α} (h : e.returned = false) :
    runD cfg b si d (st :: rest) s e =
      match dstep cfg b si d s e st with
      | .cont s' e' => runD cfg b si d rest s' e'
      | .panic m s' => .panic m s'
      | .ub m => .ub m := by
  rw [runD, if_neg (by simp [h])]; rfl

theorem runD_nil {cfg : Cfg} {b : SlotBodies} {si d : Nat} {s : Storage α} {e : DEnv α} :
    runD cfg b si d [] s e = match e.returned, e.result with
      | true, some r => .ok r s
      | _, _ => .ub "force_destroy: body ends without returning the removed components" := rfl

set_option linter.unusedSimpArgs false in
/-- `StorageN::force_destroy`, statement by statement, is the model's `forceDestroy`: same
result and final state, and the same state behind each of the two overflow panics (i.e. the
untouched one). -/
theorem gen_steps_force_destroy (cfg : Cfg) (s : Storage α) (si d : Nat) (hok : DenseOk s) (hd : d < s.len) :
    Out.same (execDestroy cfg Gen.slotBodies Gen.forceDestroySteps s si d) (forceDestroy cfg s si d) := by
  have hall := denseOk_colsAll s hok
  have hany := denseOk_colsAny s hok
  have hlen := hok.1
  have hne : ¬ s.len = 0 := Nat.ne_zero_of_lt hd
  have hnd : ¬ d ≥ s.len := Nat.not_le_of_lt hd
  have hd' : d < s.ents.length := by rw [hlen]; exact hd
  have hl' : s.len - 1 < s.ents.length := by rw [hlen]; exact Nat.sub_one_lt hne
  unfold execDestroy forceDestroy Gen.forceDestroySteps Gen.slotBodies Gen.slotAssign Gen.slotRelease
  -- every call gets all the facts known at that point, whether or not today's order of the statements
  -- needs them there: independent statements may change places in the source (seeded/harmless/H01)
  simp only [runD_cons, dstep, SR.ite_cont, Storage.ite_destroyed, hlen, hnd, hd, hne, hany, hall,
    List.getElem?_eq_getElem hd', List.getElem?_eq_getElem hl', Bool.false_eq_true, ↓reduceIte, ne_eq,
    not_true_eq_false, ge_iff_le, or_self, and_self]
  cases hsl : s.slots[si]? with
  | none => simp [runD_cons, dstep, Out.same]
  | some sl =>
    have hsi := (List.getElem?_eq_some_iff.mp hsl).1
    cases hsv : nextVer cfg sl.ver with
    | none => simp [runD_cons, dstep, hsv, Out.same]
    | some sv =>
      cases hav : nextVer cfg s.version with
      | none => simp [runD_cons, dstep, hsv, hav, Out.same]
      | some av =>
        simp only [runD_cons, dstep, SR.ite_cont, Storage.ite_destroyed, hlen, hsv, hav, hd, hne, hall,
          List.getElem?_eq_getElem hd', List.getElem?_eq_getElem hl', Bool.false_eq_true, ↓reduceIte, and_self]
        cases hls : s.slots[(s.ents[s.len - 1]'hl').slot]? with
        | none => simp [runD_cons, dstep, hlen, hd, hne, hall, Out.same]
        | some lsl =>
          have hlsi := (List.getElem?_eq_some_iff.mp hls).1
          simp [runD_cons, runD_nil, dstep, hlen, hd, hne, hall, hsl, hsi, hlsi, Out.same, applySlotSets, applySlotSet]

/-! ### The interpreter discriminates: the statement order of `force_destroy` before the repair of defect F1

With the archetype version at its maximum, the order in which defect F1 had the statements
(`version.next()` AFTER the swap-remove) leaves a panic state that has already lost the
entity's handle, while the hand-written primitive (and the repaired source order, by
`gen_steps_force_destroy`) leaves the state untouched. -/

def f1Order : List DStep :=
  [.bindIndices, .bindEntities, .nextSlotVersion, .pushDestroyed, .lastDenseIndex, .lastEntity, .lastSlotIndex,
   .swapRemoveEntities, .swapRemoveColumns, .bindSlots, .assignLast, .releaseTarget, .nextArchVersion, .setVersion,
   .setFreeHead, .decLen, .returnResult]

def f1State : Storage Nat :=
  { version := 7, len := 1, capacity := 1, freeHead := .freeEnd, slots := [⟨.data 0, 1⟩], ents := [⟨0, 1⟩],
    cols := [[42]], created := [], destroyed := [] }

def f1Cfg : Cfg := { maxCap := 16, vmax := 7, wrapping := false, events := false, debug := false }

def panicEnts {β : Type} : Out (Storage Nat) β → Option Nat
  | .panic _ s => some s.ents.length
  | _ => none

example : panicEnts (execDestroy f1Cfg Gen.slotBodies f1Order f1State 0 0) = some 0
    ∧ panicEnts (forceDestroy f1Cfg f1State 0 0) = some 1
    ∧ panicEnts (execDestroy f1Cfg Gen.slotBodies Gen.forceDestroySteps f1State 0 0) = some 1 := by
  decide +kernel

/-- Non-vacuity of the hypotheses: a populated storage meets `DenseOk` and `d < len`. -/
example : DenseOk f1State ∧ 0 < f1State.len := by
  unfold DenseOk; decide

end Gecs
