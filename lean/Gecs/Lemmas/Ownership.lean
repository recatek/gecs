/-
C04 — ownership: each component value moved into a storage is dropped exactly once.

`owned s` is the list of all cells of all columns.  Under `Inv` these are exactly the
initialised cells `0..len` of every column, i.e. exactly what `Drop for StorageN` drops
(`drop_returns_owned`, from `dropStorage_spec`).  Values are treated as tokens and lists are
compared up to `List.Perm` (a multiset view).

The step analysis is that of Values.lean.  Read row by row, the association list `view s`
of Values.lean holds the same cells as `owned s` (`view_perm_owned`, the transposition
`transpose_perm`), and a step acts on the view as `applyLbl` (`view_step`); so the balance of a
creation, a removal or a write is what `applyLbl` does to the rows of an association list
(`owned_step`).  `clear_owned` and `clone_owned` are equalities, which a permutation cannot give;
they are read off the model.

Per step (`LStep`): a creation adds the row moved in, a removal takes out the row handed back
and nothing else, `clear_events` changes nothing, and

* a `.write d c x` step (`writeCell`: a cell overwritten through `&mut` access) replaces exactly
  one owned cell by `x`: the cell's old value leaves (in Rust the assignment drops it), `x`
  enters.  The value that leaves is a function of the state at the time of the write; since the
  state's association-list view is the fold of the labels over the initial view
  (`lreach_view`), the list of all values displaced along a path is a FUNCTION of the initial
  view and the labels: `overwrittenFrom (view s) L`.
  A write that the model treats as a no-op (row or column out of range: `writeCell` then changes
  nothing; cannot be written in Rust, where the column is a struct field and the row comes from
  a resolved handle) "bounces": its value `x` is not stored, so it is itself the value that
  leaves (`displacedAt … = x`).  Hence every write label contributes exactly one value to each
  side of the balance;
* a `.clone cl` step is a different kind of step: `LStep cfg s (.clone cl) s'` REPLACES the
  storage `s` by its clone (`Op.cloneSwitch`: "clone, continue on the clone").  The clone owns
  `(owned s).map cl`, freshly produced by `Clone`; the originals `owned s` stay owned by the
  source storage, which the path no longer follows (its `Drop` drops exactly them,
  `drop_returns_owned`).

Along a path the balances of the steps add up to `conservation_all_labels`, which accounts for
clone steps by a list `srcs` of storages, one per clone label, each satisfying `Inv` (the statement
does not tie them to the states of the path; the witness is the storage before each clone).  The
statements for clone-free paths are its case `srcs = []`, and those for paths of creations /
removals / clears (`Lbl.isCDC`) are the clone-free ones with nothing written.

A refused operation, as a failed `push_within_capacity`, is not an `LStep` (header of
Values.lean): it contributes no label and moves no value in.
-/
import Gecs.Lemmas.Values

namespace Gecs
variable {α : Type}

/-- All cells of all columns, column-major (the order in which `Drop` visits them). -/
def owned (s : Storage α) : List α := s.cols.flatMap id

/-- `Drop for StorageN` drops exactly the owned cells, each once, and never reaches UB. -/
theorem drop_returns_owned {cfg : Cfg} {s : Storage α} (h : Inv cfg s) :
    dropStorage s = .ok (owned s) () := dropStorage_spec h

theorem owned_of_len_zero {cfg : Cfg} {s : Storage α} (h : Inv cfg s) (h0 : s.len = 0) :
    owned s = [] :=
  List.flatMap_eq_nil_iff.mpr fun c hc =>
    List.eq_nil_of_length_eq_zero ((h.colsLen c hc).trans h0)

theorem perm_append_interchange (A B C D : List α) :
    ((A ++ B) ++ (C ++ D)).Perm ((A ++ C) ++ (B ++ D)) := by
  rw [List.append_assoc, List.append_assoc]
  exact (List.perm_append_comm_assoc B C D).append_left A

theorem flatMap_append_perm {β : Type} (l : List β) (p q : β → List α) :
    (l.flatMap (fun i => p i ++ q i)).Perm (l.flatMap p ++ l.flatMap q) := by
  induction l with
  | nil => simp
  | cons a l ih =>
    simp only [List.flatMap_cons]
    exact (List.Perm.append_left _ ih).trans (perm_append_interchange _ _ _ _)

theorem flatMap_getElem?_toList_range (c : List α) (n : Nat) :
    (List.range n).flatMap (fun i => c[i]?.toList) = c.take n := by
  induction n with
  | zero => simp
  | succ n ih =>
    rw [List.range_succ, List.flatMap_append, ih, List.take_add_one]
    simp

theorem filterMap_cons_toList {β : Type} (F : β → Option α) (c : β) (cs : List β) :
    (c :: cs).filterMap F = (F c).toList ++ cs.filterMap F := by
  rw [List.filterMap_cons]
  cases F c <;> rfl

/-- Entity-major traversal of a rectangular block of columns is a permutation of the
column-major one. -/
theorem transpose_perm (cols : List (List α)) (n : Nat) (h : ∀ c ∈ cols, c.length = n) :
    ((List.range n).flatMap (fun i => cols.filterMap (fun c => c[i]?))).Perm (cols.flatMap id) := by
  induction cols with
  | nil => simp
  | cons c cs ih =>
    simp only [filterMap_cons_toList, List.flatMap_cons]
    refine (flatMap_append_perm _ _ _).trans ?_
    rw [flatMap_getElem?_toList_range,
      List.take_of_length_le (Nat.le_of_eq (h c List.mem_cons_self))]
    exact List.Perm.append_left _ (ih fun c' hc' => h c' (List.mem_cons_of_mem _ hc'))

theorem view_perm_owned {cfg : Cfg} {s : Storage α} (h : Inv cfg s) :
    ((view s).flatMap (·.2)).Perm (owned s) := by
  rw [List.flatMap_def, show (view s).map (·.2) = rows s from
    List.map_snd_zip (by simp [rows, h.entsLen]), rows, ← List.flatMap_def]
  exact transpose_perm s.cols s.len h.colsLen

/-- What a step does to `owned` is what its label does to the rows of an association list. -/
theorem owned_step {cfg : Cfg} {s s' : Storage α} {l : Lbl α} (h : Inv cfg s)
    (hr : RowsOk s.cols.length [l]) (st : LStep cfg s l s') :
    (owned s').Perm ((applyLbl (view s) l).flatMap (·.2)) :=
  view_step h hr st ▸ (view_perm_owned (lstep_inv h st)).symm

theorem created_owned {cfg : Cfg} {s s' : Storage α} {e : Ent} {row : List α} (h : Inv cfg s)
    (hr : row.length = s.cols.length) (st : LStep cfg s (.created e row) s') :
    (owned s').Perm (owned s ++ row) := by
  refine (owned_step h (.single fun _ _ hl => by cases hl; exact hr) st).trans ?_
  rw [applyLbl, List.flatMap_append, List.flatMap_singleton]
  exact (view_perm_owned h).append_right row

theorem flatMap_applyLbl_destroyed {v : List (Ent × List α)} (nd : (v.map (·.1)).Nodup) {i : Nat}
    {t : Ent} {row : List α} (hi : v[i]? = some (t, row)) :
    ((applyLbl v (.destroyed t row)).flatMap (·.2) ++ row).Perm (v.flatMap (·.2)) := by
  rw [applyLbl, idxOf?_of_nodup nd (by rw [List.getElem?_map, hi]; rfl)]
  have := (swapRemove_append_perm v i _ hi).flatMap_right (·.2)
  rwa [List.flatMap_append, List.flatMap_singleton] at this

/-- The row handed back leaves: the caller now owns and drops it. -/
theorem destroyed_owned {cfg : Cfg} {s s' : Storage α} {t : Ent} {row : List α} (h : Inv cfg s)
    (st : LStep cfg s (.destroyed t row) s') :
    (owned s' ++ row).Perm (owned s) := by
  obtain ⟨d, r⟩ := lstep_destroyed h st
  have hd : (view s)[d]? = some (t, row) := by rw [view_getElem? h, r.pos, r.row]; rfl
  exact ((owned_step h (.single fun _ _ hl => by cases hl) st).append_right row).trans
    ((flatMap_applyLbl_destroyed (view_keys_nodup h) hd).trans (view_perm_owned h))

theorem clear_owned {cfg : Cfg} {s s' : Storage α} (st : LStep cfg s .clear s') :
    owned s' = owned s := by
  cases st; rfl

/-- `Clone` is called once on every owned cell. -/
theorem clone_owned {cfg : Cfg} {s s' : Storage α} {cl : α → α}
    (st : LStep cfg s (.clone cl) s') : owned s' = (owned s).map cl := by
  cases st
  unfold owned
  rw [List.map_flatMap, List.flatMap_map]; rfl

theorem cloneStorage_owned {cfg : Cfg} {s s' s₀ : Storage α} {cl : α → α} (h : Inv cfg s)
    (hc : cloneStorage cl s = .ok s' s₀) : owned s' = (owned s).map cl ∧ owned s₀ = owned s := by
  rw [cloneStorage_spec h] at hc
  cases hc
  exact ⟨clone_owned (cfg := cfg) (.clone s cl), rfl⟩

theorem valueOf_subset_owned {s : Storage α} {e : Ent} {r : List α} (hv : valueOf s e = some r) :
    ∀ x ∈ r, x ∈ owned s := by
  obtain ⟨d, _, rfl⟩ := Option.map_eq_some_iff.mp hv
  intro x hx
  obtain ⟨col, hcol, hcx⟩ := List.mem_filterMap.mp hx
  exact List.mem_flatMap.mpr ⟨col, hcol, List.mem_of_getElem? hcx⟩

/-- CDC: creation, destruction or `clear_events` (no write, no clone). -/
def Lbl.isCDC : Lbl α → Bool
  | .created _ _ => true
  | .destroyed _ _ => true
  | .clear => true
  | _ => false

/-- All values moved in by the creations of `L`. -/
def createdRows (L : List (Lbl α)) : List α :=
  L.flatMap (fun l => match l with | .created _ row => row | _ => [])

/-- All values handed back by the removals of `L`. -/
def destroyedRows (L : List (Lbl α)) : List α :=
  L.flatMap (fun l => match l with | .destroyed _ row => row | _ => [])

def Lbl.isWrite : Lbl α → Bool
  | .write _ _ _ => true
  | _ => false

/-- A clone label: the step replaces the storage by its clone (see the header). -/
def Lbl.isClone : Lbl α → Bool
  | .clone _ => true
  | _ => false

/-- The values written by the `.write` labels of `L`, in order. -/
def writtenVals (L : List (Lbl α)) : List α :=
  L.flatMap (fun l => match l with | .write _ _ x => [x] | _ => [])

/-- The clone functions of the `.clone` labels of `L`, in order. -/
def cloneFns (L : List (Lbl α)) : List (α → α) :=
  L.filterMap (fun l => match l with | .clone cl => some cl | _ => none)

/-- The value that leaves when `x` is written to cell `c` of row `d` of the view `v`: the old
value of the cell; if there is no such cell the write is a no-op and `x` itself is not stored. -/
def displacedAt (v : List (Ent × List α)) (d c : Nat) (x : α) : α :=
  (v[d]?.bind (fun p => p.2[c]?)).getD x

/-- All values displaced by the writes of `L`, in order, starting from the view `v`
(the view evolves by `applyLbl`, Lemmas/Values.lean). -/
def overwrittenFrom : List (Ent × List α) → List (Lbl α) → List α
  | _, [] => []
  | v, l :: L =>
    (match l with | .write d c x => [displacedAt v d c x] | _ => [])
      ++ overwrittenFrom (applyLbl v l) L

theorem overwrittenFrom_append (v : List (Ent × List α)) (L₁ L₂ : List (Lbl α)) :
    overwrittenFrom v (L₁ ++ L₂)
      = overwrittenFrom v L₁ ++ overwrittenFrom (L₁.foldl applyLbl v) L₂ := by
  induction L₁ generalizing v with
  | nil => simp [overwrittenFrom]
  | cons l L₁ ih => simp [overwrittenFrom, ih, List.append_assoc]

theorem overwrittenFrom_length (v : List (Ent × List α)) (L : List (Lbl α)) :
    (overwrittenFrom v L).length = (L.filter Lbl.isWrite).length := by
  induction L generalizing v with
  | nil => rfl
  | cons l L ih => cases l <;> simp [overwrittenFrom, ih, Lbl.isWrite, List.filter_cons]

theorem writtenVals_length (L : List (Lbl α)) :
    (writtenVals L).length = (L.filter Lbl.isWrite).length := by
  induction L with
  | nil => rfl
  | cons l L ih =>
    rw [writtenVals, List.flatMap_cons, List.length_append, ← writtenVals, ih, List.filter_cons]
    cases l <;> simp [Lbl.isWrite, Nat.add_comm]

theorem cloneFns_eq_nil {L : List (Lbl α)} (hnc : ∀ l ∈ L, l.isClone = false) :
    cloneFns L = [] := by
  unfold cloneFns
  rw [List.filterMap_eq_nil_iff]
  intro l hl
  have := hnc l hl
  cases l <;> simp [Lbl.isClone] at this ⊢

/-- The values produced by `Clone` along a path: clone function `i` applied to every value
owned by the `i`-th source storage. -/
def clonedVals (fs : List (α → α)) (srcs : List (Storage α)) : List α :=
  (List.zipWith (fun cl t => (owned t).map cl) fs srcs).flatten

theorem createdRows_append (L₁ L₂ : List (Lbl α)) :
    createdRows (L₁ ++ L₂) = createdRows L₁ ++ createdRows L₂ := List.flatMap_append

theorem destroyedRows_append (L₁ L₂ : List (Lbl α)) :
    destroyedRows (L₁ ++ L₂) = destroyedRows L₁ ++ destroyedRows L₂ := List.flatMap_append

theorem writtenVals_append (L₁ L₂ : List (Lbl α)) :
    writtenVals (L₁ ++ L₂) = writtenVals L₁ ++ writtenVals L₂ := List.flatMap_append

theorem cloneFns_append (L₁ L₂ : List (Lbl α)) :
    cloneFns (L₁ ++ L₂) = cloneFns L₁ ++ cloneFns L₂ := List.filterMap_append

theorem clonedVals_append {fs₁ : List (α → α)} {srcs₁ : List (Storage α)}
    (h : srcs₁.length = fs₁.length) (fs₂ : List (α → α)) (srcs₂ : List (Storage α)) :
    clonedVals (fs₁ ++ fs₂) (srcs₁ ++ srcs₂) = clonedVals fs₁ srcs₁ ++ clonedVals fs₂ srcs₂ := by
  unfold clonedVals
  rw [List.zipWith_append h.symm, List.flatten_append]

theorem displacedAt_view {cfg : Cfg} {s : Storage α} (h : Inv cfg s) (d c : Nat) (x : α) :
    (d < s.len ∧ c < s.cols.length →
        (rowAt s d)[c]? = some (displacedAt (view s) d c x))
    ∧ (¬ (d < s.len ∧ c < s.cols.length) → displacedAt (view s) d c x = x) := by
  unfold displacedAt
  rw [view_getElem? h d]
  by_cases hd : d < s.len
  · obtain ⟨e, he⟩ := h.ents_get hd
    rw [he, Option.map_some, Option.bind_some]
    by_cases hc : c < s.cols.length
    · rw [List.getElem?_eq_getElem (by rw [rowAt_length h hd]; exact hc)]
      exact ⟨fun _ => rfl, fun hno => absurd ⟨hd, hc⟩ hno⟩
    · rw [List.getElem?_eq_none (by rw [rowAt_length h hd]; omega)]
      exact ⟨fun hin => absurd hin.2 hc, fun _ => rfl⟩
  · rw [show s.ents[d]? = none from List.getElem?_eq_none (by rw [h.entsLen]; omega)]
    exact ⟨fun hin => absurd hin.1 hd, fun _ => rfl⟩

theorem getD_cons_set_perm (r : List α) (c : Nat) (x : α) :
    (r[c]?.getD x :: r.set c x).Perm (x :: r) := by
  induction r generalizing c with
  | nil => exact .refl _
  | cons y ys ih =>
    cases c with
    | zero => exact List.Perm.swap x y ys
    | succ c =>
      -- o :: y :: ys.set c x ~ y :: o :: ys.set c x ~ y :: x :: ys ~ x :: y :: ys
      exact (List.Perm.swap y _ _).trans (((ih c).cons y).trans (List.Perm.swap x y ys))

theorem flatMap_applyLbl_write (v : List (Ent × List α)) (d c : Nat) (x : α) :
    ((applyLbl v (.write d c x)).flatMap (·.2) ++ [displacedAt v d c x]).Perm
      (v.flatMap (·.2) ++ [x]) := by
  show ((v.modify d _).flatMap _ ++ _).Perm _
  induction v generalizing d with
  | nil => rw [List.modify_nil]; exact .refl _
  | cons p v ih =>
    cases d with
    | zero =>
      rw [List.modify_zero_cons, List.flatMap_cons, List.flatMap_cons]
      exact (List.perm_append_singleton _ _).trans
        (((getD_cons_set_perm p.2 c x).append_right _).trans (List.perm_append_singleton _ _).symm)
    | succ d =>
      rw [List.modify_succ_cons, List.flatMap_cons, List.flatMap_cons, List.append_assoc,
        List.append_assoc]
      exact (ih d).append_left p.2

theorem write_step_owned {cfg : Cfg} {s s' : Storage α} {d c : Nat} {x : α} (h : Inv cfg s)
    (st : LStep cfg s (.write d c x) s') :
    (owned s' ++ [displacedAt (view s) d c x]).Perm (owned s ++ [x]) :=
  ((owned_step h (.single fun _ _ hl => by cases hl) st).append_right _).trans
    ((flatMap_applyLbl_write (view s) d c x).trans ((view_perm_owned h).append_right _))

theorem modify_set_noop (cols : List (List α)) (n c d : Nat) (x : α)
    (h : ∀ col ∈ cols, col.length = n) (hno : ¬ (d < n ∧ c < cols.length)) :
    cols.modify c (·.set d x) = cols := by
  by_cases hc : c < cols.length
  · have hd : cols[c].length ≤ d := by rw [h _ (List.getElem_mem hc)]; omega
    rw [List.modify_eq_take_cons_drop hc, List.set_eq_of_length_le hd, List.getElem_cons_drop,
      List.take_append_drop]
  · exact List.modify_eq_self (Nat.le_of_not_lt hc)

theorem write_owned {cfg : Cfg} {s s' : Storage α} {d c : Nat} {x : α} (h : Inv cfg s)
    (st : LStep cfg s (.write d c x) s') :
    (d < s.len ∧ c < s.cols.length →
      ∃ old, (rowAt s d)[c]? = some old ∧ (owned s' ++ [old]).Perm (owned s ++ [x]))
    ∧ (¬ (d < s.len ∧ c < s.cols.length) → s' = s) := by
  refine ⟨fun hin => ⟨_, (displacedAt_view h d c x).1 hin, write_step_owned h st⟩, fun hno => ?_⟩
  cases st
  unfold writeCell
  rw [modify_set_noop s.cols s.len c d x h.colsLen hno]

/-- `write_step_owned` in existential form: exactly one value leaves, `x` enters. -/
theorem write_step_owned_ex {cfg : Cfg} {s s' : Storage α} {d c : Nat} {x : α} (h : Inv cfg s)
    (st : LStep cfg s (.write d c x) s') :
    ∃ old, (owned s' ++ [old]).Perm (owned s ++ [x])
      ∧ (d < s.len ∧ c < s.cols.length → (rowAt s d)[c]? = some old)
      ∧ (¬ (d < s.len ∧ c < s.cols.length) → old = x ∧ s' = s) :=
  ⟨displacedAt (view s) d c x, write_step_owned h st, (displacedAt_view h d c x).1,
    fun hno => ⟨(displacedAt_view h d c x).2 hno, (write_owned h st).2 hno⟩⟩

-- what a single label contributes to each list of the balance is found by evaluation
attribute [local simp] createdRows destroyedRows writtenVals overwrittenFrom cloneFns clonedVals in
/-- The balance of ONE labelled step, in the shape of `conservation_all_labels`: a creation
brings its row, a removal hands its row back, a write brings a value and displaces one, a clone
step leaves the source storage behind and continues on the freshly cloned values. -/
theorem conservation_step {cfg : Cfg} {s s' : Storage α} {l : Lbl α} (h : Inv cfg s)
    (hr : RowsOk s.cols.length [l]) (st : LStep cfg s l s') :
    ∃ srcs : List (Storage α), srcs.length = (cloneFns [l]).length ∧ (∀ t ∈ srcs, Inv cfg t)
      ∧ (owned s' ++ destroyedRows [l] ++ overwrittenFrom (view s) [l] ++ srcs.flatMap owned).Perm
          (owned s ++ createdRows [l] ++ writtenVals [l] ++ clonedVals (cloneFns [l]) srcs) := by
  cases l with
  | created e row =>
    exact ⟨[], rfl, nofun, by simpa using created_owned h (hr e row (by simp)) st⟩
  | destroyed t row => exact ⟨[], rfl, nofun, by simpa using destroyed_owned h st⟩
  | write d c x => exact ⟨[], rfl, nofun, by simpa using write_step_owned h st⟩
  | clear => exact ⟨[], rfl, nofun, by simp [clear_owned st]⟩
  | clone cl =>
    refine ⟨[s], rfl, fun t ht => List.mem_singleton.mp ht ▸ h, ?_⟩
    simpa [clone_owned st] using List.perm_append_comm

open Classical in
/-- Conservation along EVERY labelled path.  Everything that ever entered — initially owned,
moved in by a creation, written, or produced by `Clone` — is at the end exactly once either
still owned, or was handed back by a removal, or was displaced by a write, or is owned by one of
`srcs` (one `Inv` storage per clone label; the witness is the storage before each clone step, which
the statement does not say; `Drop` of such a storage drops exactly `owned` of it,
`drop_returns_owned`). -/
theorem conservation_all_labels {cfg : Cfg} {s s' : Storage α} {L : List (Lbl α)}
    (hr : RowsOk s.cols.length L) (r : LReach cfg s L s') :
    ∃ srcs : List (Storage α), srcs.length = (cloneFns L).length ∧ (∀ t ∈ srcs, Inv cfg t)
      ∧ (owned s' ++ destroyedRows L ++ overwrittenFrom (view s) L ++ srcs.flatMap owned).Perm
          (owned s ++ createdRows L ++ writtenVals L ++ clonedVals (cloneFns L) srcs) := by
  induction r with
  | refl => exact ⟨[], rfl, nofun, .refl _⟩
  | @step s₁ s₂ L₁ l r hi st ih =>
    obtain ⟨srcs, hlen, hinv, hp⟩ := ih hr.init
    obtain ⟨src, hlen', hinv', hp'⟩ :=
      conservation_step hi (by rw [lreach_cols_length hr.init r]; exact hr.last) st
    refine ⟨srcs ++ src, ?_, fun t ht => (List.mem_append.mp ht).elim (hinv t) (hinv' t), ?_⟩
    · rw [cloneFns_append, List.length_append, List.length_append, hlen, hlen']
    · -- the balances of the prefix and of the last step add up
      rw [createdRows_append, destroyedRows_append, writtenVals_append, overwrittenFrom_append,
        ← lreach_view hr.init r, cloneFns_append, clonedVals_append hlen, List.flatMap_append]
      -- counting needs `DecidableEq α`; there is none, hence `open Classical`
      rw [List.perm_iff_count]
      intro a
      have h1 := hp.count_eq a
      have h2 := hp'.count_eq a
      simp only [List.count_append] at h1 h2 ⊢
      omega

/-- Conservation along any CLONE-FREE path (writes included), with the list of displaced values
explicit. -/
theorem conservation_with_writes_explicit {cfg : Cfg} {s s' : Storage α} {L : List (Lbl α)}
    (hr : RowsOk s.cols.length L) (hnc : ∀ l ∈ L, l.isClone = false) (r : LReach cfg s L s') :
    (owned s' ++ destroyedRows L ++ overwrittenFrom (view s) L).Perm
      (owned s ++ createdRows L ++ writtenVals L) := by
  obtain ⟨srcs, hlen, _, hp⟩ := conservation_all_labels hr r
  rw [cloneFns_eq_nil hnc] at hlen hp
  obtain rfl := List.eq_nil_of_length_eq_zero hlen
  simpa [clonedVals] using hp

/-- The existential form: one displaced value per write label. -/
theorem conservation_with_writes {cfg : Cfg} {s s' : Storage α} {L : List (Lbl α)}
    (hr : RowsOk s.cols.length L) (hnc : ∀ l ∈ L, l.isClone = false) (r : LReach cfg s L s') :
    ∃ overwritten : List α, overwritten.length = (L.filter Lbl.isWrite).length
      ∧ (owned s' ++ destroyedRows L ++ overwritten).Perm
          (owned s ++ createdRows L ++ writtenVals L) :=
  ⟨overwrittenFrom (view s) L, overwrittenFrom_length _ _,
    conservation_with_writes_explicit hr hnc r⟩

/-- Dropping the final storage drops exactly the rest: nothing leaks, nothing is dropped twice. -/
theorem conservation_drop_with_writes {cfg : Cfg} {s s' : Storage α} {L : List (Lbl α)}
    (h : Inv cfg s) (hr : RowsOk s.cols.length L) (hnc : ∀ l ∈ L, l.isClone = false)
    (r : LReach cfg s L s') :
    ∃ dropped overwritten, dropStorage s' = .ok dropped ()
      ∧ overwritten = overwrittenFrom (view s) L
      ∧ overwritten.length = (L.filter Lbl.isWrite).length
      ∧ (dropped ++ destroyedRows L ++ overwritten).Perm
          (owned s ++ createdRows L ++ writtenVals L) :=
  ⟨owned s', overwrittenFrom (view s) L, drop_returns_owned (lockstep h r), rfl,
    overwrittenFrom_length _ _, conservation_with_writes_explicit hr hnc r⟩

/-- With pairwise distinct tokens (initial, created and written): no token is owned twice, none
is handed back twice, none is displaced twice, none is both handed back and displaced, and none
is handed back or displaced while still owned (in particular while it is a value of a live
entity). -/
theorem nodup_with_writes {cfg : Cfg} {s s' : Storage α} {L : List (Lbl α)}
    (hr : RowsOk s.cols.length L) (hnc : ∀ l ∈ L, l.isClone = false) (r : LReach cfg s L s')
    (hnd : (owned s ++ createdRows L ++ writtenVals L).Nodup) :
    (owned s').Nodup ∧ (destroyedRows L).Nodup ∧ (overwrittenFrom (view s) L).Nodup
      ∧ (∀ x ∈ destroyedRows L, x ∉ owned s')
      ∧ (∀ x ∈ overwrittenFrom (view s) L, x ∉ owned s')
      ∧ (∀ x ∈ overwrittenFrom (view s) L, x ∉ destroyedRows L)
      ∧ (∀ e row, valueOf s' e = some row → ∀ x ∈ row,
          x ∉ destroyedRows L ∧ x ∉ overwrittenFrom (view s) L) := by
  have hp := conservation_with_writes_explicit hr hnc r
  have hnd' := hp.nodup_iff.mpr hnd
  obtain ⟨h12, h3, h123⟩ := List.nodup_append.mp hnd'
  obtain ⟨h1, h2, h1_2⟩ := List.nodup_append.mp h12
  have a1 : ∀ x ∈ destroyedRows L, x ∉ owned s' := fun x hx ho => h1_2 x ho x hx rfl
  have a2 : ∀ x ∈ overwrittenFrom (view s) L, x ∉ owned s' :=
    fun x hx ho => h123 x (List.mem_append_left _ ho) x hx rfl
  have a3 : ∀ x ∈ overwrittenFrom (view s) L, x ∉ destroyedRows L :=
    fun x hx hd => h123 x (List.mem_append_right _ hd) x hx rfl
  refine ⟨h1, h2, h3, a1, a2, a3, ?_⟩
  intro e row hv x hx
  have ho := valueOf_subset_owned hv x hx
  exact ⟨fun hd => a1 x hd ho, fun hw => a2 x hw ho⟩

/-- Everything still owned, handed back or displaced was there initially, was moved in or was
written (nothing is made up), and conversely (nothing is lost). -/
theorem conservation_mem_with_writes {cfg : Cfg} {s s' : Storage α} {L : List (Lbl α)}
    (hr : RowsOk s.cols.length L) (hnc : ∀ l ∈ L, l.isClone = false) (r : LReach cfg s L s')
    (x : α) :
    (x ∈ owned s' ∨ x ∈ destroyedRows L ∨ x ∈ overwrittenFrom (view s) L)
      ↔ (x ∈ owned s ∨ x ∈ createdRows L ∨ x ∈ writtenVals L) := by
  have := (conservation_with_writes_explicit hr hnc r).mem_iff (a := x)
  simpa [List.mem_append, or_assoc] using this

/-- On paths of creations / removals / clears nothing is written or displaced: the statements
with writes specialise to those for `isCDC` paths. -/
theorem overwrittenFrom_of_cdc {L : List (Lbl α)} (hcdc : ∀ l ∈ L, l.isCDC = true)
    (v : List (Ent × List α)) : overwrittenFrom v L = [] ∧ writtenVals L = [] := by
  induction L generalizing v with
  | nil => exact ⟨rfl, rfl⟩
  | cons l L ih =>
    have hl := hcdc l List.mem_cons_self
    obtain ⟨h1, h2⟩ := ih (fun l' hl' => hcdc l' (List.mem_cons_of_mem _ hl')) (applyLbl v l)
    cases l <;> first | exact ⟨h1, h2⟩ | cases hl

theorem Lbl.noClone_of_isCDC {l : Lbl α} (h : l.isCDC = true) : l.isClone = false := by
  cases l <;> first | rfl | cases h

/-- Conservation of component values: everything that was in the storage or was moved in
is either still owned — and will be dropped exactly once by `Drop` (`drop_returns_owned`) —
or was handed back exactly once. -/
theorem conservation {cfg : Cfg} {s s' : Storage α} {L : List (Lbl α)}
    (hr : RowsOk s.cols.length L) (hcdc : ∀ l ∈ L, l.isCDC = true) (r : LReach cfg s L s') :
    (owned s' ++ destroyedRows L).Perm (owned s ++ createdRows L) := by
  have hp := conservation_with_writes_explicit hr (fun l hl => Lbl.noClone_of_isCDC (hcdc l hl)) r
  obtain ⟨ho, hw⟩ := overwrittenFrom_of_cdc hcdc (view s)
  rwa [ho, hw, List.append_nil, List.append_nil] at hp

/-- Dropping the final storage drops exactly the rest: nothing leaks, nothing is dropped twice. -/
theorem conservation_drop {cfg : Cfg} {s s' : Storage α} {L : List (Lbl α)} (h : Inv cfg s)
    (hr : RowsOk s.cols.length L) (hcdc : ∀ l ∈ L, l.isCDC = true) (r : LReach cfg s L s') :
    ∃ dropped, dropStorage s' = .ok dropped ()
      ∧ (dropped ++ destroyedRows L).Perm (owned s ++ createdRows L) :=
  ⟨owned s', drop_returns_owned (lockstep h r), conservation hr hcdc r⟩

/-- With pairwise distinct tokens: no token is owned twice, none is handed back twice, and none
is handed back while still owned (in particular while its entity is alive). -/
theorem nodup_preserved {cfg : Cfg} {s s' : Storage α} {L : List (Lbl α)}
    (hr : RowsOk s.cols.length L) (hcdc : ∀ l ∈ L, l.isCDC = true) (r : LReach cfg s L s')
    (hnd : (owned s ++ createdRows L).Nodup) :
    (owned s').Nodup ∧ (destroyedRows L).Nodup ∧ (∀ x ∈ destroyedRows L, x ∉ owned s')
      ∧ (∀ e row, valueOf s' e = some row → ∀ x ∈ row, x ∉ destroyedRows L) := by
  obtain ⟨_, hw⟩ := overwrittenFrom_of_cdc hcdc (view s)
  obtain ⟨h1, h2, _, h3, _, _, h4⟩ :=
    nodup_with_writes hr (fun l hl => Lbl.noClone_of_isCDC (hcdc l hl)) r
      (by rwa [hw, List.append_nil])
  exact ⟨h1, h2, h3, fun e row hv x hx => (h4 e row hv x hx).1⟩

/-- Everything handed back or still owned was there initially or was moved in (nothing is
made up), and conversely (nothing is lost). -/
theorem conservation_mem {cfg : Cfg} {s s' : Storage α} {L : List (Lbl α)}
    (hr : RowsOk s.cols.length L) (hcdc : ∀ l ∈ L, l.isCDC = true) (r : LReach cfg s L s')
    (x : α) : (x ∈ owned s' ∨ x ∈ destroyedRows L) ↔ (x ∈ owned s ∨ x ∈ createdRows L) := by
  have := (conservation hr hcdc r).mem_iff (a := x)
  simpa [List.mem_append] using this

/-! ## Non-vacuity on the 2-column storage `holeEx` -/
namespace StorageEx

/-- Creation, removal (with relocation), clear. -/
def ownExL : List (Lbl Nat) :=
  [.created ⟨1, 2⟩ [13, 23], .destroyed ⟨0, 1⟩ [10, 20], .clear]

def ownEx2 : Storage Nat :=
  ⟨3, 2, 3, .free 0, [⟨.freeEnd, 2⟩, ⟨.data 0, 2⟩, ⟨.data 1, 1⟩], [⟨1, 2⟩, ⟨2, 1⟩],
    [[13, 12], [23, 22]], [⟨1, 2⟩], [⟨0, 1⟩]⟩

theorem ownEx_step2 : LStep cfgEx pathEx1 (.destroyed ⟨0, 1⟩ [10, 20]) ownEx2 :=
  .destroyEnt _ _ _ _ rfl

theorem ownEx_reach : LReach cfgEx holeEx ownExL (clearEvents ownEx2) := by
  have i1 := lstep_inv holeEx_inv pathEx_step1
  have i2 := lstep_inv i1 ownEx_step2
  exact .step (.step (.step (.refl _) holeEx_inv pathEx_step1) i1 ownEx_step2) i2 (.clear _)

theorem ownEx_rowsOk : RowsOk holeEx.cols.length ownExL := .of_all rfl

theorem ownEx_cdc : ∀ l ∈ ownExL, l.isCDC = true := by decide

example : owned holeEx = [10, 12, 20, 22] := by decide
example : createdRows ownExL = [13, 23] ∧ destroyedRows ownExL = [10, 20] := by decide
example : (owned holeEx ++ createdRows ownExL).Nodup := by decide

example : (owned (clearEvents ownEx2) ++ [10, 20]).Perm ([10, 12, 20, 22] ++ [13, 23]) :=
  conservation ownEx_rowsOk ownEx_cdc ownEx_reach

example : (owned (clearEvents ownEx2)).Nodup ∧ ∀ x ∈ [10, 20], x ∉ owned (clearEvents ownEx2) :=
  let h := nodup_preserved ownEx_rowsOk ownEx_cdc ownEx_reach (by decide)
  ⟨h.1, h.2.2.1⟩

example : ∃ dropped, dropStorage (clearEvents ownEx2) = .ok dropped ()
    ∧ (dropped ++ [10, 20]).Perm ([10, 12, 20, 22] ++ [13, 23]) :=
  conservation_drop holeEx_inv ownEx_rowsOk ownEx_cdc ownEx_reach

-- a write in range replaces one cell; one out of range is a no-op
example : ∃ old, (rowAt pathEx1 2)[1]? = some old
    ∧ (owned (writeCell pathEx1 2 1 77) ++ [old]).Perm (owned pathEx1 ++ [77]) :=
  (write_owned (lstep_inv holeEx_inv pathEx_step1) pathEx_step2).1 (by decide)

example : writeCell holeEx 5 0 1 = holeEx :=
  (write_owned holeEx_inv (.write holeEx 5 0 1)).2 (by decide)

example : owned { holeEx with cols := holeEx.cols.map (·.map (· + 1)) } = [11, 13, 21, 23] := by
  rw [clone_owned (cfg := cfgEx) (.clone holeEx (· + 1))]; decide

-- a refused `push_within_capacity` changes nothing
example : pushWithin cfgEx pathEx1 [1, 2] = .ok none pathEx1 := pushWithin_full _ (by decide)

/-! ### With writes: `pathExL` (Lemmas/Values.lean)

Creation of `⟨1,2⟩ ↦ [13,23]`, write of `77` to cell 1 of row 2 (displacing `23`), removal of `⟨0,1⟩`
(handing back `[10,20]`), `clear_events`. -/
theorem pathEx_noClone : ∀ l ∈ pathExL, l.isClone = false := by decide

example : owned holeEx = [10, 12, 20, 22] ∧ createdRows pathExL = [13, 23]
    ∧ writtenVals pathExL = [77] ∧ destroyedRows pathExL = [10, 20]
    ∧ overwrittenFrom (view holeEx) pathExL = [23]
    ∧ owned (clearEvents pathEx3) = [13, 12, 77, 22] := by decide

example : (pathExL.filter Lbl.isWrite).length = 1 := by decide

example : (owned (clearEvents pathEx3) ++ [10, 20] ++ [23]).Perm
    ([10, 12, 20, 22] ++ [13, 23] ++ [77]) :=
  conservation_with_writes_explicit pathEx_rowsOk pathEx_noClone pathEx_reach

example : ∃ overwritten : List Nat, overwritten.length = 1
    ∧ (owned (clearEvents pathEx3) ++ [10, 20] ++ overwritten).Perm
        ([10, 12, 20, 22] ++ [13, 23] ++ [77]) :=
  conservation_with_writes pathEx_rowsOk pathEx_noClone pathEx_reach

example : ∃ dropped overwritten, dropStorage (clearEvents pathEx3) = .ok dropped ()
    ∧ overwritten = [23] ∧ overwritten.length = 1
    ∧ (dropped ++ [10, 20] ++ overwritten).Perm ([10, 12, 20, 22] ++ [13, 23] ++ [77]) :=
  conservation_drop_with_writes holeEx_inv pathEx_rowsOk pathEx_noClone pathEx_reach

example : (owned holeEx ++ createdRows pathExL ++ writtenVals pathExL).Nodup := by decide

example : (owned (clearEvents pathEx3)).Nodup
    ∧ (∀ x ∈ [10, 20], x ∉ owned (clearEvents pathEx3))
    ∧ (∀ x ∈ [23], x ∉ owned (clearEvents pathEx3)) :=
  let h := nodup_with_writes pathEx_rowsOk pathEx_noClone pathEx_reach (by decide)
  ⟨h.1, h.2.2.2.1, h.2.2.2.2.1⟩

-- one write step, in range: `23` leaves, `77` enters
example : (owned (writeCell pathEx1 2 1 77) ++ [23]).Perm (owned pathEx1 ++ [77]) :=
  write_step_owned (lstep_inv holeEx_inv pathEx_step1) pathEx_step2

/-- A write out of range is a no-op of the model; its value bounces. -/
theorem bounceEx_reach : LReach cfgEx holeEx ([] ++ [.write 5 0 99]) (writeCell holeEx 5 0 99) :=
  .step (.refl _) holeEx_inv (.write holeEx 5 0 99)

example : writeCell holeEx 5 0 99 = holeEx :=
  (write_owned holeEx_inv (.write holeEx 5 0 99)).2 (by decide)

example : overwrittenFrom (view holeEx) [.write 5 0 99] = [99] := by decide

example : (owned (writeCell holeEx 5 0 99) ++ [] ++ [99]).Perm (owned holeEx ++ [] ++ [99]) :=
  conservation_with_writes_explicit (fun _ _ h => by simp at h) (by decide) bounceEx_reach

/-- A path with a clone step: creation, `Clone` with `(· + 100)`, write of `7` to cell 0 of row
0 of the clone (displacing `110`).  The source `pathEx1` keeps `[10, 12, 13, 20, 22, 23]`. -/
def cloneExL : List (Lbl Nat) := [.created ⟨1, 2⟩ [13, 23], .clone (· + 100), .write 0 0 7]

def cloneEx2 : Storage Nat := { pathEx1 with cols := pathEx1.cols.map (·.map (· + 100)) }

theorem cloneEx_reach : LReach cfgEx holeEx cloneExL (writeCell cloneEx2 0 0 7) := by
  have i1 := lstep_inv holeEx_inv pathEx_step1
  have st2 : LStep cfgEx pathEx1 (.clone (· + 100)) cloneEx2 := .clone pathEx1 (· + 100)
  have i2 := lstep_inv i1 st2
  exact .step (.step (.step (.refl _) holeEx_inv pathEx_step1) i1 st2) i2 (.write cloneEx2 0 0 7)

theorem cloneEx_rowsOk : RowsOk holeEx.cols.length cloneExL := .of_all rfl

example : owned (writeCell cloneEx2 0 0 7) = [7, 112, 113, 120, 122, 123]
    ∧ overwrittenFrom (view holeEx) cloneExL = [110]
    ∧ owned pathEx1 = [10, 12, 13, 20, 22, 23]
    ∧ clonedVals [(· + 100)] [pathEx1] = [110, 112, 113, 120, 122, 123] := by decide

example : ∃ srcs : List (Storage Nat), srcs.length = 1 ∧ (∀ t ∈ srcs, Inv cfgEx t)
    ∧ (owned (writeCell cloneEx2 0 0 7) ++ [] ++ [110] ++ srcs.flatMap owned).Perm
        ([10, 12, 20, 22] ++ [13, 23] ++ [7] ++ clonedVals [(· + 100)] srcs) :=
  conservation_all_labels cloneEx_rowsOk cloneEx_reach

end StorageEx
end Gecs

section
open Gecs
#print axioms drop_returns_owned
#print axioms transpose_perm
#print axioms created_owned
#print axioms destroyed_owned
#print axioms write_owned
#print axioms clear_owned
#print axioms clone_owned
#print axioms cloneStorage_owned
#print axioms valueOf_subset_owned
#print axioms conservation
#print axioms conservation_drop
#print axioms nodup_preserved
#print axioms conservation_mem
#print axioms write_step_owned
#print axioms write_step_owned_ex
#print axioms conservation_all_labels
#print axioms conservation_with_writes_explicit
#print axioms conservation_with_writes
#print axioms conservation_drop_with_writes
#print axioms nodup_with_writes
#print axioms conservation_mem_with_writes
#print axioms overwrittenFrom_of_cdc
end
