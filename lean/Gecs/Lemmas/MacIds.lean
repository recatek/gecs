/-
C15: the ids assigned by `DWorld.new` follow the enum-discriminant rule and are unique.

`buildComps` and `buildArchs` are one recursion (`buildItems`) whose id logic is `assignIds`:
`advanceId` folded over the `(explicit id, name)` pairs of the *enabled* items.  Everything about
ids is proved once for `assignIds`, against the reference rule `discriminants`/`noOverflow`:
`assignIds_ok_iff` (success: the ids are those of the rule, which has no overflow and no
repetition) and `assignIds_error_iff` (failure: the error of the step at the first position at
which anything goes wrong, taken against the table the rule predicts).  `duplicateAt_iff` and
`exceedsAt_iff` read the two id errors off a run `assignIds … [] none`, which is what `DWorld.new`
makes for the archetypes and, restarted, for the components of each enabled archetype; the
transfer of these, of uniqueness and of the `u8` bound to `DWorld.new` is in `Props/C15`.
-/
import Gecs.Lemmas.MacCfg

namespace Gecs.Mac

/-- enum-discriminant rule: explicit value, otherwise previous + 1, otherwise 0 -/
def discriminants : List (Option Nat) → Option Nat → List Nat
  | [], _ => []
  | some i :: rest, _ => i :: discriminants rest (some i)
  | none :: rest, none => 0 :: discriminants rest (some 0)
  | none :: rest, some l => (l + 1) :: discriminants rest (some (l + 1))

/-- no implicit discriminant is the successor of a value `≥ 255` (i.e. would not fit `u8`) -/
def noOverflow : List (Option Nat) → Option Nat → Bool
  | [], _ => true
  | some i :: rest, _ => noOverflow rest (some i)
  | none :: rest, none => noOverflow rest (some 0)
  | none :: rest, some l => decide (l + 1 ≤ 255) && noOverflow rest (some (l + 1))

def enabledComps (l : CfgLookup) (cs : List PComp) : List PComp :=
  cs.filter (fun c => evaluateCfgs l c.cfgs == some true)

def enabledArchs (l : CfgLookup) (as : List PArch) : List PArch :=
  as.filter (fun a => evaluateCfgs l a.cfgs == some true)

/-- the id the next item receives -/
def nextId : Option Nat → Option Nat → Nat
  | some i, _ => i
  | none, none => 0
  | none, some l => l + 1

/-- the next item's id fits (only an implicit successor can fail) -/
def stepOk : Option Nat → Option Nat → Bool
  | none, some l => decide (l + 1 ≤ 255)
  | _, _ => true

theorem discriminants_cons (e : Option Nat) (rest : List (Option Nat)) (last : Option Nat) :
    discriminants (e :: rest) last = nextId e last :: discriminants rest (some (nextId e last)) := by
  cases e <;> cases last <;> simp [discriminants, nextId]

theorem noOverflow_cons (e : Option Nat) (rest : List (Option Nat)) (last : Option Nat) :
    noOverflow (e :: rest) last = (stepOk e last && noOverflow rest (some (nextId e last))) := by
  cases e <;> cases last <;> simp [noOverflow, nextId, stepOk]

@[simp] theorem discriminants_nil (last : Option Nat) : discriminants [] last = [] := rfl

@[simp] theorem noOverflow_nil (last : Option Nat) : noOverflow [] last = true := rfl

@[simp] theorem discriminants_length (xs : List (Option Nat)) (last : Option Nat) :
    (discriminants xs last).length = xs.length := by
  induction xs generalizing last with
  | nil => simp
  | cons e rest ih => simp [discriminants_cons, ih]

theorem discriminants_take (xs : List (Option Nat)) (last : Option Nat) (k : Nat) :
    discriminants (xs.take k) last = (discriminants xs last).take k := by
  induction xs generalizing last k with
  | nil => simp
  | cons e rest ih =>
    cases k with
    | zero => simp
    | succ k => simp [discriminants_cons, ih]

theorem noOverflow_take (xs : List (Option Nat)) (last : Option Nat) (k : Nat)
    (h : noOverflow xs last = true) : noOverflow (xs.take k) last = true := by
  induction xs generalizing last k with
  | nil => simp
  | cons e rest ih =>
    cases k with
    | zero => simp
    | succ k =>
      rw [noOverflow_cons, Bool.and_eq_true] at h
      simp [noOverflow_cons, h.1, ih _ _ h.2]

theorem stepOk_eq_false_iff {e last : Option Nat} :
    stepOk e last = false ↔ e = none ∧ 255 < nextId e last := by
  cases e <;> cases last <;> simp [stepOk, nextId]
  omega

theorem nextId_le_255 {e last : Option Nat} (hs : stepOk e last = true)
    (he : ∀ k, e = some k → k ≤ 255) : nextId e last ≤ 255 := by
  cases e with
  | some i => exact he i rfl
  | none =>
    cases last with
    | none => simp [nextId]
    | some l => simpa [stepOk, nextId] using hs

theorem discriminants_le_255 (xs : List (Option Nat)) (last : Option Nat)
    (hx : ∀ n, some n ∈ xs → n ≤ 255) (h : noOverflow xs last = true) :
    ∀ n ∈ discriminants xs last, n ≤ 255 := by
  induction xs generalizing last with
  | nil => simp
  | cons e rest ih =>
    rw [noOverflow_cons, Bool.and_eq_true] at h
    rw [discriminants_cons]
    exact List.forall_mem_cons.mpr ⟨nextId_le_255 h.1 fun k hk => hx k (by simp [hk]),
      ih _ (fun n hn => hx n (List.mem_cons_of_mem _ hn)) h.2⟩

theorem discriminants_le_256 (xs : List (Option Nat)) (last : Option Nat) (i m : Nat)
    (hx : ∀ n, some n ∈ xs → n ≤ 255) (hl : ∀ n, last = some n → n ≤ 255)
    (h : noOverflow (xs.take i) last = true) (hm : (discriminants xs last)[i]? = some m) :
    m ≤ 256 := by
  induction xs generalizing last i with
  | nil => simp at hm
  | cons e rest ih =>
    rw [discriminants_cons] at hm
    cases i with
    | zero =>
      obtain rfl : nextId e last = m := by simpa using hm
      cases e with
      | some k => exact Nat.le_succ_of_le (hx k (by simp))
      | none =>
        cases last with
        | none => simp [nextId]
        | some l => exact Nat.succ_le_succ (hl l rfl)
    | succ i =>
      rw [List.take_succ_cons, noOverflow_cons, Bool.and_eq_true] at h
      refine ih (some (nextId e last)) i (fun n hn => hx n (List.mem_cons_of_mem _ hn)) ?_ h.2
        (by simpa using hm)
      rintro n ⟨⟩
      exact nextId_le_255 h.1 fun k hk => hx k (by simp [hk])

theorem find?_key_none {ids : List (Nat × String)} {n : Nat} :
    ids.find? (fun kv => kv.1 == n) = none ↔ n ∉ ids.map (·.1) := by
  simp only [List.find?_eq_none, List.mem_map, beq_iff_eq, not_exists, not_and]

theorem find?_key_of_mem {l : List (Nat × String)} {n : Nat} {s : String}
    (hnd : (l.map (·.1)).Nodup) (h : (n, s) ∈ l) : l.find? (fun kv => kv.1 == n) = some (n, s) := by
  induction l with
  | nil => cases h
  | cons kv l ih =>
    rw [List.map_cons, List.nodup_cons] at hnd
    rcases List.mem_cons.mp h with rfl | h
    · simp
    · rw [List.find?_cons_of_neg, ih hnd.2 h]
      simpa using fun hk : kv.1 = n => hnd.1 (hk ▸ List.mem_map_of_mem (f := (·.1)) h)

theorem advanceId_eq (e : Option Nat) (nm : String) (ids : List (Nat × String)) (last : Option Nat) :
    advanceId e nm ids last =
      if stepOk e last = false then .error (.exceeds nm)
      else match ids.find? (fun kv => kv.1 == nextId e last) with
        | some (_, prev) => .error (.duplicate (nextId e last) nm prev)
        | none => .ok (nextId e last, ids ++ [(nextId e last, nm)]) := by
  cases e with
  | some i => rfl
  | none =>
    cases last with
    | none => rfl
    | some l =>
      by_cases h : l + 1 ≤ 255 <;> simp only [advanceId, stepOk, nextId, h, decide_true,
        decide_false, if_true, if_false, Bool.true_eq_false] <;> rfl

theorem advanceId_cases (e : Option Nat) (nm : String) (ids : List (Nat × String))
    (last : Option Nat) :
    (stepOk e last = false ∧ advanceId e nm ids last = .error (.exceeds nm)) ∨
    (stepOk e last = true ∧ ∃ prev,
      ids.find? (fun kv => kv.1 == nextId e last) = some (nextId e last, prev) ∧
      advanceId e nm ids last = .error (.duplicate (nextId e last) nm prev)) ∨
    (stepOk e last = true ∧ nextId e last ∉ ids.map (·.1) ∧
      advanceId e nm ids last = .ok (nextId e last, ids ++ [(nextId e last, nm)])) := by
  rw [advanceId_eq]
  cases hs : stepOk e last with
  | false => exact .inl ⟨rfl, rfl⟩
  | true =>
    cases hf : ids.find? (fun kv => kv.1 == nextId e last) with
    | none => exact .inr (.inr ⟨rfl, find?_key_none.mp hf, rfl⟩)
    | some kv =>
      obtain ⟨k, prev⟩ := kv
      obtain rfl : k = nextId e last := by simpa using List.find?_some hf
      exact .inr (.inl ⟨rfl, prev, rfl, rfl⟩)

theorem advanceId_error_iff {e : Option Nat} {nm : String} {ids : List (Nat × String)}
    {last : Option Nat} {err : IdErr} :
    advanceId e nm ids last = .error err ↔
      (e = none ∧ 255 < nextId e last ∧ err = .exceeds nm) ∨
      (stepOk e last = true ∧ ∃ prev,
        ids.find? (fun kv => kv.1 == nextId e last) = some (nextId e last, prev) ∧
        err = .duplicate (nextId e last) nm prev) := by
  rcases advanceId_cases e nm ids last with ⟨hs, ha⟩ | ⟨hs, prev, hp, ha⟩ | ⟨hs, hn, ha⟩ <;>
    simp only [← and_assoc, ← stepOk_eq_false_iff, ha, hs, Except.error.injEq, true_and,
      reduceCtorEq, false_and, or_false, false_or, @eq_comm _ err]
  · simp only [hp, Option.some.injEq, Prod.mk.injEq, true_and, exists_eq_left']
  · simp only [find?_key_none.mpr hn, reduceCtorEq, false_and, exists_false]

/-- `advanceId` folded over a list of `(explicit id, name)` pairs. -/
def assignIds : List (Option Nat × String) → List (Nat × String) → Option Nat →
    Except IdErr (List Nat)
  | [], _, _ => .ok []
  | (e, nm) :: rest, ids, last =>
    match advanceId e nm ids last with
    | .error err => .error err
    | .ok (n, ids') =>
      match assignIds rest ids' (some n) with
      | .error err => .error err
      | .ok r => .ok (n :: r)

theorem assignIds_nil (ids : List (Nat × String)) (last : Option Nat) :
    assignIds [] ids last = .ok [] := rfl

theorem assignIds_cons_error {e : Option Nat} {nm : String} {rest : List (Option Nat × String)}
    {ids : List (Nat × String)} {last : Option Nat} {err : IdErr}
    (h : advanceId e nm ids last = .error err) :
    assignIds ((e, nm) :: rest) ids last = .error err := by
  simp [assignIds, h]

theorem assignIds_cons_ok {e : Option Nat} {nm : String} {rest : List (Option Nat × String)}
    {ids ids' : List (Nat × String)} {last : Option Nat} {n : Nat}
    (h : advanceId e nm ids last = .ok (n, ids')) :
    assignIds ((e, nm) :: rest) ids last = (assignIds rest ids' (some n)).map (n :: ·) := by
  simp only [assignIds, h]
  cases assignIds rest ids' (some n) <;> rfl

theorem except_map_eq_ok {ε α β : Type} {f : α → β} {x : Except ε α} {y : β} :
    x.map f = .ok y ↔ ∃ a, x = .ok a ∧ y = f a := by
  cases x <;> simp [Except.map, eq_comm]

theorem except_map_eq_error {ε α β : Type} {f : α → β} {x : Except ε α} {err : ε} :
    x.map f = .error err ↔ x = .error err := by
  cases x <;> simp [Except.map]

theorem assignIds_ok_iff (xs : List (Option Nat × String)) (ids : List (Nat × String))
    (last : Option Nat) (ns : List Nat) :
    assignIds xs ids last = .ok ns ↔
      ns = discriminants (xs.map (·.1)) last ∧ noOverflow (xs.map (·.1)) last = true ∧
      (discriminants (xs.map (·.1)) last).Nodup ∧
      ∀ n ∈ discriminants (xs.map (·.1)) last, n ∉ ids.map (·.1) := by
  induction xs generalizing ids last ns with
  | nil => exact ⟨fun h => ⟨(Except.ok.inj h).symm, rfl, List.nodup_nil, nofun⟩, fun h => h.1 ▸ rfl⟩
  | cons x rest ih =>
    obtain ⟨e, nm⟩ := x
    simp only [List.map_cons, discriminants_cons, noOverflow_cons]
    rcases advanceId_cases e nm ids last with ⟨hs, ha⟩ | ⟨hs, prev, hp, ha⟩ | ⟨hs, hn, ha⟩
    · rw [assignIds_cons_error ha, hs]
      exact ⟨nofun, fun h => nomatch h.2.1⟩
    · rw [assignIds_cons_error ha]
      have : nextId e last ∈ ids.map (·.1) :=
        List.mem_map.mpr ⟨_, List.mem_of_find?_eq_some hp, rfl⟩
      exact ⟨nofun, fun h => absurd this (h.2.2.2 _ List.mem_cons_self)⟩
    · -- the rest runs against `ids` extended by the new id, so its ids are to be fresh for `ids`
      -- and different from the new one
      rw [assignIds_cons_ok ha, except_map_eq_ok]
      simp only [ih, hs, hn, Bool.true_and, List.nodup_cons, List.mem_cons, forall_eq_or_imp,
        List.map_append, List.map_cons, List.map_nil, List.mem_append, not_or, forall_and,
        List.forall_mem_ne', List.not_mem_nil, not_false_eq_true, true_and, and_true, and_assoc,
        exists_eq_left]
      exact ⟨fun ⟨a, b, c, d, e⟩ => ⟨e, a, d, b, c⟩, fun ⟨e, a, d, b, c⟩ => ⟨a, b, c, d, e⟩⟩

theorem assignIds_isOk_iff (xs : List (Option Nat × String)) (ids : List (Nat × String))
    (last : Option Nat) :
    (∃ ns, assignIds xs ids last = .ok ns) ↔
      noOverflow (xs.map (·.1)) last = true ∧ (discriminants (xs.map (·.1)) last).Nodup ∧
      ∀ n ∈ discriminants (xs.map (·.1)) last, n ∉ ids.map (·.1) := by
  simp only [assignIds_ok_iff, exists_eq_left]

theorem assignIds_ok_nodup {xs : List (Option Nat × String)} {ids : List (Nat × String)}
    {last : Option Nat} {ns : List Nat} (h : assignIds xs ids last = .ok ns) : ns.Nodup := by
  obtain ⟨rfl, _, h', _⟩ := (assignIds_ok_iff _ _ _ _).mp h
  exact h'

theorem assignIds_ok_le_255 {xs : List (Option Nat × String)} {ids : List (Nat × String)}
    {ns : List Nat} (h : assignIds xs ids none = .ok ns)
    (hx : ∀ k, some k ∈ xs.map (·.1) → k ≤ 255) : ∀ n ∈ ns, n ≤ 255 := by
  obtain ⟨rfl, h', _, _⟩ := (assignIds_ok_iff _ _ _ _).mp h
  exact discriminants_le_255 _ none hx h'

/-- In the item sequence `xs` (explicit id, name), position `i`, named `later`, is the first at
which id assignment fails, and it fails because the id `n` that the rule gives to item `i` is
already held by the earlier item `j < i` named `earlier`.  A step checks overflow before it looks
for a holder (`advanceId_eq`), so step `i` itself has not overflowed: `take (i + 1)` here, against
`take i` in `ExceedsAt`, where step `i` is the one that overflows. -/
def DuplicateAt (xs : List (Option Nat × String)) (n : Nat) (later earlier : String) : Prop :=
  ∃ i j, j < i ∧ (xs[i]?).map (·.2) = some later ∧ (xs[j]?).map (·.2) = some earlier ∧
    (discriminants (xs.map (·.1)) none)[i]? = some n ∧
    (discriminants (xs.map (·.1)) none)[j]? = some n ∧
    ((discriminants (xs.map (·.1)) none).take i).Nodup ∧
    noOverflow ((xs.map (·.1)).take (i + 1)) none = true

/-- In the item sequence `xs`, position `i` is the first at which id assignment fails; item `i`
is named `item`, has no explicit id, and the rule would give it `m > 255`; `m = 256` when the
explicit ids are `u8`. -/
def ExceedsAt (xs : List (Option Nat × String)) (item : String) : Prop :=
  ∃ i m, xs[i]? = some (none, item) ∧
    (discriminants (xs.map (·.1)) none)[i]? = some m ∧ 255 < m ∧
    ((∀ k, some k ∈ xs.map (·.1) → k ≤ 255) → m = 256) ∧
    ((discriminants (xs.map (·.1)) none).take i).Nodup ∧
    noOverflow ((xs.map (·.1)).take i) none = true

/-- **The errors of `assignIds`.** The error is that of the step at the first position `i` at which
anything goes wrong: up to `i` the ids are those of the rule, and item `i` either has no explicit id
and would get `n > 255`, or gets the id `n` of the rule, which the table built so far (the initial
`ids`, then the first `i` items with their ids) already holds for `prev`. -/
theorem assignIds_error_iff {xs : List (Option Nat × String)} {ids : List (Nat × String)}
    {last : Option Nat} {err : IdErr} :
    assignIds xs ids last = .error err ↔
      ∃ i e nm n, xs[i]? = some (e, nm) ∧ (discriminants (xs.map (·.1)) last)[i]? = some n ∧
        assignIds (xs.take i) ids last = .ok ((discriminants (xs.map (·.1)) last).take i) ∧
        ((e = none ∧ 255 < n ∧ err = .exceeds nm) ∨
         (noOverflow ((xs.map (·.1)).take (i + 1)) last = true ∧ ∃ prev,
           (ids ++ ((discriminants (xs.map (·.1)) last).zip (xs.map (·.2))).take i).find?
             (fun kv => kv.1 == n) = some (n, prev) ∧
           err = .duplicate n nm prev)) := by
  induction xs generalizing ids last with
  | nil => simp [assignIds]
  | cons x rest ih =>
    obtain ⟨e₀, nm₀⟩ := x
    -- position `0` is the step `advanceId e₀ nm₀ ids last`, position `i + 1` is position `i` of `rest`
    rw [← Nat.or_exists_add_one]
    simp only [List.map_cons, discriminants_cons, List.getElem?_cons_zero, List.getElem?_cons_succ,
      List.take_succ_cons, List.take_zero, noOverflow_cons, noOverflow_nil, Bool.and_true,
      List.zip_cons_cons, List.append_nil, Option.some.injEq, Prod.mk.injEq, assignIds_nil,
      true_and, and_assoc, exists_and_left, exists_eq_left']
    rw [← advanceId_error_iff]
    rcases advanceId_cases e₀ nm₀ ids last with ⟨-, ha⟩ | ⟨-, _, -, ha⟩ | ⟨hs, -, ha⟩
    case inl | inr.inl =>
      -- the step fails, so no prefix reaching beyond it is assigned
      simp only [assignIds_cons_error ha, ha, Except.error.injEq, reduceCtorEq, false_and, and_false,
        exists_false, or_false]
    case inr.inr =>
      simp only [assignIds_cons_ok ha, ha, except_map_eq_error, except_map_eq_ok, ih, hs,
        Bool.true_and, List.cons.injEq, true_and, exists_eq_right', reduceCtorEq, false_or,
        List.append_assoc, List.singleton_append, exists_and_left]

theorem assignIds_prefix_ok_iff {xs : List (Option Nat × String)} {i : Nat} :
    assignIds (xs.take i) [] none = .ok ((discriminants (xs.map (·.1)) none).take i) ↔
      ((discriminants (xs.map (·.1)) none).take i).Nodup ∧
      noOverflow ((xs.map (·.1)).take i) none = true := by
  rw [assignIds_ok_iff]
  simp [List.map_take, discriminants_take, and_comm]

/-- The holder of `n` in the table built from the first `i` items, whose ids are distinct. -/
theorem find?_zip_take_iff {ds : List Nat} {nms : List String} {i n : Nat} {s : String}
    (hl : ds.length = nms.length) (hnd : (ds.take i).Nodup) :
    ((ds.zip nms).take i).find? (fun kv => kv.1 == n) = some (n, s) ↔
      ∃ j, j < i ∧ ds[j]? = some n ∧ nms[j]? = some s := by
  have hmem : (n, s) ∈ (ds.zip nms).take i ↔ ∃ j, j < i ∧ ds[j]? = some n ∧ nms[j]? = some s := by
    simp only [List.mem_iff_getElem?, List.getElem?_take, Option.ite_none_right_eq_some,
      List.getElem?_zip_eq_some]
  rw [← hmem]
  refine ⟨List.mem_of_find?_eq_some, find?_key_of_mem ?_⟩
  rwa [List.map_take, List.map_fst_zip (Nat.le_of_eq hl)]

theorem duplicateAt_iff {xs : List (Option Nat × String)} {n : Nat} {later earlier : String} :
    assignIds xs [] none = .error (.duplicate n later earlier) ↔ DuplicateAt xs n later earlier := by
  rw [assignIds_error_iff]
  unfold DuplicateAt
  simp only [assignIds_prefix_ok_iff, reduceCtorEq, and_false, false_or, List.nil_append,
    IdErr.duplicate.injEq]
  constructor
  · rintro ⟨i, e, nm, _, h1, h2, ⟨h3, -⟩, h4, prev, h5, rfl, rfl, rfl⟩
    obtain ⟨j, hj, h6, h7⟩ := (find?_zip_take_iff (by simp) h3).mp h5
    exact ⟨i, j, hj, by rw [h1]; rfl, by rw [← List.getElem?_map]; exact h7, h2, h6, h3, h4⟩
  · rintro ⟨i, j, hj, h1, h5, h2, h6, h3, h4⟩
    obtain ⟨⟨e, nm⟩, hx, rfl⟩ := Option.map_eq_some_iff.mp h1
    refine ⟨i, e, nm, n, hx, h2, ⟨h3, ?_⟩, h4, earlier,
      (find?_zip_take_iff (by simp) h3).mpr ⟨j, hj, h6, by rw [List.getElem?_map]; exact h5⟩,
      rfl, rfl, rfl⟩
    have := noOverflow_take _ none i h4
    rwa [List.take_take, Nat.min_eq_left (Nat.le_succ i)] at this

theorem exceedsAt_iff {xs : List (Option Nat × String)} {item : String} :
    assignIds xs [] none = .error (.exceeds item) ↔ ExceedsAt xs item := by
  rw [assignIds_error_iff]
  unfold ExceedsAt
  simp only [assignIds_prefix_ok_iff, reduceCtorEq, and_false, exists_false, or_false,
    IdErr.exceeds.injEq]
  constructor
  · rintro ⟨i, _, _, m, h1, h2, h3, rfl, hm, rfl⟩
    -- the value of the failing successor: at most 256 when all earlier ids fit `u8`
    refine ⟨i, m, h1, h2, hm, fun hk => ?_, h3⟩
    have := discriminants_le_256 _ none i m hk (by simp) h3.2 h2
    omega
  · rintro ⟨i, m, h1, h2, hm, -, h3⟩
    exact ⟨i, none, item, m, h1, h2, h3, rfl, hm, rfl⟩

def compItems (cs : List PComp) : List (Option Nat × String) := cs.map (fun c => (c.id, c.name))

def archItems (as : List PArch) : List (Option Nat × String) := as.map (fun a => (a.id, a.name))

@[simp] theorem compItems_map_fst (cs : List PComp) : (compItems cs).map (·.1) = cs.map (·.id) := by
  simp [compItems]

@[simp] theorem compItems_map_snd (cs : List PComp) : (compItems cs).map (·.2) = cs.map (·.name) := by
  simp [compItems]

@[simp] theorem archItems_map_fst (as : List PArch) : (archItems as).map (·.1) = as.map (·.id) := by
  simp [archItems]

@[simp] theorem archItems_map_snd (as : List PArch) : (archItems as).map (·.2) = as.map (·.name) := by
  simp [archItems]

def mkComps (ns : List Nat) (cs : List PComp) : List DComp :=
  List.zipWith (fun n c => ⟨n, c.name⟩) ns cs

/-- result of `buildComps` from the result of `assignIds` on the enabled components, when no cfg
list fails to evaluate (one that does gives `.error .missingCfg` only if no id error comes first) -/
def liftComps (r : Except IdErr (List Nat)) (cs : List PComp) : Except NewErr (List DComp) :=
  match r with
  | .error e => .error (.id e)
  | .ok ns => .ok (mkComps ns cs)

@[simp] theorem liftComps_error (e : IdErr) (cs : List PComp) :
    liftComps (.error e) cs = .error (.id e) := rfl

section BuildItems
variable {α β γ : Type}

/-- The recursion of `buildComps` and `buildArchs`: a cfg-disabled item is skipped, an enabled one
gets its id from `advanceId`, its payload from `sub`, and is assembled by `mk`. -/
def buildItems (ev : α → Option Bool) (key : α → Option Nat × String) (sub : α → Except NewErr β)
    (mk : Nat → α → β → γ) : List α → List (Nat × String) → Option Nat → Except NewErr (List γ)
  | [], _, _ => .ok []
  | x :: xs, ids, last =>
    match ev x with
    | none => .error .missingCfg
    | some false => buildItems ev key sub mk xs ids last
    | some true =>
      match advanceId (key x).1 (key x).2 ids last with
      | .error e => .error (.id e)
      | .ok (n, ids') =>
        match sub x with
        | .error e => .error e
        | .ok b =>
          match buildItems ev key sub mk xs ids' (some n) with
          | .error e => .error e
          | .ok rest => .ok (mk n x b :: rest)

theorem buildComps_eq_buildItems (l : CfgLookup) (cs : List PComp) (ids : List (Nat × String))
    (last : Option Nat) :
    buildComps l cs ids last =
      buildItems (fun c => evaluateCfgs l c.cfgs) (fun c => (c.id, c.name))
        (fun _ => .ok ()) (fun n c _ => ⟨n, c.name⟩) cs ids last := by
  fun_induction buildComps l cs ids last <;> simp_all only [buildItems]

theorem buildArchs_eq_buildItems (l : CfgLookup) (as : List PArch) (ids : List (Nat × String))
    (last : Option Nat) :
    buildArchs l as ids last =
      buildItems (fun a => evaluateCfgs l a.cfgs) (fun a => (a.id, a.name))
        (fun a => buildComps l a.comps [] none) (fun n a comps => ⟨n, a.name, comps⟩) as ids last := by
  fun_induction buildArchs l as ids last <;> simp_all only [buildItems]

section
variable {ev : α → Option Bool} {key : α → Option Nat × String} {sub : α → Except NewErr β}
  {mk : Nat → α → β → γ} {xs : List α} {ids : List (Nat × String)} {last : Option Nat}

theorem filter_enabled_cons_true {x : α} (h : ev x = some true) :
    (x :: xs).filter (ev · == some true) = x :: xs.filter (ev · == some true) :=
  List.filter_cons_of_pos (by simp [h])

theorem filter_enabled_cons_false {x : α} (h : ev x = some false) :
    (x :: xs).filter (ev · == some true) = xs.filter (ev · == some true) :=
  List.filter_cons_of_neg (by simp [h])

theorem buildItems_error {e : NewErr} (h : buildItems ev key sub mk xs ids last = .error e) :
    (e = .missingCfg ∧ ∃ x ∈ xs, ev x = none) ∨
    (∃ e', e = .id e' ∧
      assignIds ((xs.filter (ev · == some true)).map key) ids last = .error e') ∨
    ∃ x ∈ xs.filter (ev · == some true), sub x = .error e := by
  fun_induction buildItems ev key sub mk xs ids last with
  | case1 => cases h
  | case2 x xs _ _ hev => cases h; exact .inl ⟨rfl, x, by simp, hev⟩
  | case3 x xs _ _ hev ih =>
    rw [filter_enabled_cons_false hev]
    rcases ih h with ⟨rfl, y, hy, h'⟩ | h' | h'
    · exact .inl ⟨rfl, y, List.mem_cons_of_mem _ hy, h'⟩
    · exact .inr (.inl h')
    · exact .inr (.inr h')
  | case4 x xs _ _ hev err ha =>
    cases h
    rw [filter_enabled_cons_true hev]
    exact .inr (.inl ⟨err, rfl, assignIds_cons_error ha⟩)
  | case5 x xs _ _ hev n ids' ha e' hs =>
    cases h
    rw [filter_enabled_cons_true hev]
    exact .inr (.inr ⟨x, by simp, hs⟩)
  | case6 x xs _ _ hev n ids' ha b hs e' hr ih =>
    cases h
    rw [filter_enabled_cons_true hev]
    rcases ih hr with ⟨rfl, y, hy, h'⟩ | ⟨e'', rfl, h'⟩ | ⟨y, hy, h'⟩
    · exact .inl ⟨rfl, y, List.mem_cons_of_mem _ hy, h'⟩
    · exact .inr (.inl ⟨e'', rfl, by rw [List.map_cons, assignIds_cons_ok ha, h']; rfl⟩)
    · exact .inr (.inr ⟨y, List.mem_cons_of_mem _ hy, h'⟩)
  | case7 => cases h

theorem buildItems_ok {ds : List γ} (h : buildItems ev key sub mk xs ids last = .ok ds) :
    (∀ x ∈ xs, ev x ≠ none) ∧ ∃ ts : List (Nat × α × β),
      ds = ts.map (fun t => mk t.1 t.2.1 t.2.2) ∧
      assignIds ((xs.filter (ev · == some true)).map key) ids last = .ok (ts.map (·.1)) ∧
      ts.map (·.2.1) = xs.filter (ev · == some true) ∧
      ts.map (fun t => .ok t.2.2) = (xs.filter (ev · == some true)).map sub := by
  fun_induction buildItems ev key sub mk xs ids last generalizing ds with
  | case1 => cases h; exact ⟨by simp, [], rfl, rfl, rfl, rfl⟩
  | case3 x xs _ _ hev ih =>
    rw [filter_enabled_cons_false hev]
    exact ⟨List.forall_mem_cons.mpr ⟨by simp [hev], (ih h).1⟩, (ih h).2⟩
  | case7 x xs _ _ hev n ids' ha b hs rest hr ih =>
    cases h
    obtain ⟨h1, ts, rfl, h2, h3, h4⟩ := ih hr
    rw [filter_enabled_cons_true hev]
    exact ⟨List.forall_mem_cons.mpr ⟨by simp [hev], h1⟩, (n, x, b) :: ts, rfl,
      by rw [List.map_cons, assignIds_cons_ok ha, h2]; rfl, by rw [← h3]; rfl,
      by simp only [List.map_cons, hs, h4]⟩
  | _ => cases h

theorem buildItems_isOk_iff :
    (∃ ds, buildItems ev key sub mk xs ids last = .ok ds) ↔
      (∀ x ∈ xs, ev x ≠ none) ∧
      (∃ ns, assignIds ((xs.filter (ev · == some true)).map key) ids last = .ok ns) ∧
      ∀ x ∈ xs.filter (ev · == some true), ∃ b, sub x = .ok b := by
  constructor
  · rintro ⟨ds, h⟩
    obtain ⟨h1, ts, _, h2, _, h4⟩ := buildItems_ok h
    refine ⟨h1, ⟨_, h2⟩, fun x hx => ?_⟩
    have : sub x ∈ ts.map (fun t => (.ok t.2.2 : Except NewErr β)) :=
      h4 ▸ List.mem_map_of_mem hx
    obtain ⟨t, _, ht⟩ := List.mem_map.mp this
    exact ⟨_, ht.symm⟩
  · rintro ⟨h1, ⟨ns, h2⟩, h3⟩
    cases h : buildItems ev key sub mk xs ids last with
    | ok ds => exact ⟨ds, rfl⟩
    | error e =>
      rcases buildItems_error h with ⟨_, x, hx, hn⟩ | ⟨e', _, h'⟩ | ⟨x, hx, h'⟩
      · exact absurd hn (h1 x hx)
      · rw [h'] at h2; cases h2
      · obtain ⟨b, hb⟩ := h3 x hx
        rw [h'] at hb; cases hb

end

/-- Deleting the disabled items beforehand (`keep`) and renaming the others (`φ`) changes nothing,
if the renamed items are all enabled and have the same key, payload and assembled result. -/
theorem buildItems_erase {α' : Type} {ev : α → Option Bool} {key : α → Option Nat × String}
    {sub : α → Except NewErr β} {mk : Nat → α → β → γ} {ev' : α' → Option Bool}
    {key' : α' → Option Nat × String} {sub' : α' → Except NewErr β} {mk' : Nat → α' → β → γ}
    (φ : α → α') (keep : α → Bool) (xs : List α) (ids : List (Nat × String)) (last : Option Nat)
    (hev : ∀ x ∈ xs, ev x = some (keep x)) (hev' : ∀ x, ev' (φ x) = some true)
    (hkey : ∀ x, key' (φ x) = key x) (hsub : ∀ x ∈ xs, sub' (φ x) = sub x)
    (hmk : ∀ n x b, mk' n (φ x) b = mk n x b) :
    buildItems ev' key' sub' mk' ((xs.filter keep).map φ) ids last =
      buildItems ev key sub mk xs ids last := by
  induction xs generalizing ids last with
  | nil => rfl
  | cons x xs ih =>
    have ih' := fun ids last => ih ids last (fun y hy => hev y (List.mem_cons_of_mem _ hy))
      (fun y hy => hsub y (List.mem_cons_of_mem _ hy))
    have hx := hev x (by simp)
    cases hk : keep x <;> rw [hk] at hx
    · rw [List.filter_cons_of_neg (by simp [hk]), ih']
      simp only [buildItems, hx]
    · rw [List.filter_cons_of_pos hk, List.map_cons]
      simp only [buildItems, hx, hev', hkey, hsub x (by simp), hmk, ih']

end BuildItems

theorem buildComps_ok {l : CfgLookup} {cs : List PComp} {ids : List (Nat × String)}
    {last : Option Nat} {ds : List DComp} (h : buildComps l cs ids last = .ok ds) :
    (∀ c ∈ cs, evaluateCfgs l c.cfgs ≠ none) ∧
    assignIds (compItems (enabledComps l cs)) ids last = .ok (ds.map (·.id)) ∧
    ds.map (·.name) = (enabledComps l cs).map (·.name) := by
  rw [buildComps_eq_buildItems] at h
  obtain ⟨h1, ts, rfl, h2, h3, _⟩ := buildItems_ok h
  exact ⟨h1, by rw [List.map_map]; exact h2, by rw [enabledComps, ← h3]; simp [List.map_map]⟩

theorem buildComps_error_id {l : CfgLookup} {cs : List PComp} {ids : List (Nat × String)}
    {last : Option Nat} {e : IdErr} (h : buildComps l cs ids last = .error (.id e)) :
    assignIds (compItems (enabledComps l cs)) ids last = .error e := by
  rw [buildComps_eq_buildItems] at h
  rcases buildItems_error h with ⟨h', _⟩ | ⟨_, h', h2⟩ | ⟨_, _, h'⟩ <;> cases h'
  exact h2

theorem buildComps_error_missing {l : CfgLookup} {cs : List PComp} {ids : List (Nat × String)}
    {last : Option Nat} (h : buildComps l cs ids last = .error .missingCfg) :
    ∃ c ∈ cs, evaluateCfgs l c.cfgs = none := by
  rw [buildComps_eq_buildItems] at h
  rcases buildItems_error h with ⟨_, h'⟩ | ⟨_, h', _⟩ | ⟨_, _, h'⟩
  · exact h'
  · cases h'
  · cases h'

theorem buildComps_ok_iff (l : CfgLookup) (cs : List PComp) (ids : List (Nat × String))
    (last : Option Nat) :
    (∃ ds, buildComps l cs ids last = .ok ds) ↔
      (∀ c ∈ cs, evaluateCfgs l c.cfgs ≠ none) ∧
      noOverflow ((enabledComps l cs).map (·.id)) last = true ∧
      (discriminants ((enabledComps l cs).map (·.id)) last).Nodup ∧
      ∀ n ∈ discriminants ((enabledComps l cs).map (·.id)) last, n ∉ ids.map (·.1) := by
  rw [buildComps_eq_buildItems, buildItems_isOk_iff, assignIds_isOk_iff, List.map_map]
  exact ⟨fun ⟨h1, h2, _⟩ => ⟨h1, h2⟩, fun ⟨h1, h2⟩ => ⟨h1, h2, fun _ _ => ⟨(), rfl⟩⟩⟩

theorem buildArchs_ok {l : CfgLookup} {as : List PArch} {ids : List (Nat × String)}
    {last : Option Nat} {ds : List DArch} (h : buildArchs l as ids last = .ok ds) :
    (∀ a ∈ as, evaluateCfgs l a.cfgs ≠ none) ∧
    assignIds (archItems (enabledArchs l as)) ids last = .ok (ds.map (·.id)) ∧
    ds.map (·.name) = (enabledArchs l as).map (·.name) ∧
    ds.map (fun d => (.ok d.comps : Except NewErr (List DComp))) =
      (enabledArchs l as).map (fun a => buildComps l a.comps [] none) := by
  rw [buildArchs_eq_buildItems] at h
  obtain ⟨h1, ts, rfl, h2, h3, h4⟩ := buildItems_ok h
  exact ⟨h1, by rw [List.map_map]; exact h2, by rw [enabledArchs, ← h3]; simp [List.map_map],
    by rw [List.map_map]; exact h4⟩

theorem buildArchs_error_id {l : CfgLookup} {as : List PArch} {ids : List (Nat × String)}
    {last : Option Nat} {e : IdErr} (h : buildArchs l as ids last = .error (.id e)) :
    assignIds (archItems (enabledArchs l as)) ids last = .error e ∨
    ∃ a ∈ enabledArchs l as, buildComps l a.comps [] none = .error (.id e) := by
  rw [buildArchs_eq_buildItems] at h
  rcases buildItems_error h with ⟨h', _⟩ | ⟨_, h', h2⟩ | h'
  · cases h'
  · cases h'; exact .inl h2
  · exact .inr h'

theorem buildArchs_error_missing {l : CfgLookup} {as : List PArch} {ids : List (Nat × String)}
    {last : Option Nat} (h : buildArchs l as ids last = .error .missingCfg) :
    (∃ a ∈ as, evaluateCfgs l a.cfgs = none) ∨
    ∃ a ∈ enabledArchs l as, ∃ c ∈ a.comps, evaluateCfgs l c.cfgs = none := by
  rw [buildArchs_eq_buildItems] at h
  rcases buildItems_error h with ⟨_, h'⟩ | ⟨_, h', _⟩ | ⟨a, ha, h'⟩
  · exact .inl h'
  · cases h'
  · exact .inr ⟨a, ha, buildComps_error_missing h'⟩

/-- **C15, components.** Names are those of the enabled components, ids follow the
discriminant rule over the enabled components only (disabled ones consume no id). -/
theorem buildComps_rule {l : CfgLookup} {cs : List PComp} {ids : List (Nat × String)}
    {last : Option Nat} {ds : List DComp} (h : buildComps l cs ids last = .ok ds) :
    ds.map (·.name) = (enabledComps l cs).map (·.name) ∧
    ds.map (·.id) = discriminants ((enabledComps l cs).map (·.id)) last := by
  obtain ⟨_, h2, h3⟩ := buildComps_ok h
  exact ⟨h3, by simpa using ((assignIds_ok_iff _ _ _ _).mp h2).1⟩

/-- **C15, archetypes.** Same for archetypes; the components of the `i`-th result are
`buildComps l a.comps [] none` of the `i`-th enabled parsed archetype (stated as equality of
the two lists of results). -/
theorem buildArchs_rule {l : CfgLookup} {as : List PArch} {ids : List (Nat × String)}
    {last : Option Nat} {ds : List DArch} (h : buildArchs l as ids last = .ok ds) :
    ds.map (·.name) = (enabledArchs l as).map (·.name) ∧
    ds.map (·.id) = discriminants ((enabledArchs l as).map (·.id)) last ∧
    ds.map (fun d => (.ok d.comps : Except NewErr (List DComp))) =
      (enabledArchs l as).map (fun a => buildComps l a.comps [] none) := by
  obtain ⟨_, h2, h3, h4⟩ := buildArchs_ok h
  exact ⟨h3, by simpa using ((assignIds_ok_iff _ _ _ _).mp h2).1, h4⟩

theorem DWorld_new_ok_iff {w : PWorld} {l : CfgLookup} {d : DWorld} :
    DWorld.new w l = .ok d ↔ buildArchs l w.archs [] none = .ok d.archs ∧ d.name = w.name := by
  unfold DWorld.new
  cases buildArchs l w.archs [] none with
  | error e => exact ⟨nofun, fun h => nomatch h.1⟩
  | ok archs => cases d; simp [eq_comm, and_comm]

theorem DWorld_new_isOk_iff {w : PWorld} {l : CfgLookup} :
    (∃ d, DWorld.new w l = .ok d) ↔ ∃ archs, buildArchs l w.archs [] none = .ok archs := by
  unfold DWorld.new
  cases buildArchs l w.archs [] none <;> simp

theorem DWorld_new_error_iff {w : PWorld} {l : CfgLookup} {e : NewErr} :
    DWorld.new w l = .error e ↔ buildArchs l w.archs [] none = .error e := by
  unfold DWorld.new
  cases buildArchs l w.archs [] none <;> simp

/-- **C15, missing cfg.** `.missingCfg` means that some reached cfg list cannot be evaluated. -/
theorem ids_error_missingCfg {w : PWorld} {l : CfgLookup}
    (h : DWorld.new w l = .error .missingCfg) :
    (∃ a ∈ w.archs, evaluateCfgs l a.cfgs = none) ∨
    ∃ a ∈ enabledArchs l w.archs, ∃ c ∈ a.comps, evaluateCfgs l c.cfgs = none :=
  buildArchs_error_missing (DWorld_new_error_iff.mp h)

/-- **C15, per archetype, unfolded.** The `i`-th enabled parsed archetype becomes the `i`-th
archetype of the result; its component names/ids are those of its enabled components under the
discriminant rule restarted at `none`. -/
theorem ids_rule_comps {w : PWorld} {l : CfgLookup} {d : DWorld} (h : DWorld.new w l = .ok d)
    (i : Nat) (a : PArch) (ha : (enabledArchs l w.archs)[i]? = some a) :
    ∃ da, d.archs[i]? = some da ∧ da.name = a.name ∧
      buildComps l a.comps [] none = .ok da.comps ∧
      da.comps.map (·.name) = (enabledComps l a.comps).map (·.name) ∧
      da.comps.map (·.id) = discriminants ((enabledComps l a.comps).map (·.id)) none := by
  obtain ⟨h2, _, h4⟩ := buildArchs_rule (DWorld_new_ok_iff.mp h).1
  have h2i := congrArg (fun xs => xs[i]?) h2
  have h4i := congrArg (fun xs => xs[i]?) h4
  simp only [List.getElem?_map, ha, Option.map_some] at h2i h4i
  cases hd : d.archs[i]? with
  | none => simp [hd] at h2i
  | some da =>
    simp only [hd, Option.map_some, Option.some.injEq] at h2i h4i
    obtain ⟨h5, h6⟩ := buildComps_rule h4i.symm
    exact ⟨da, rfl, h2i, h4i.symm, h5, h6⟩

theorem archs_origin {w : PWorld} {l : CfgLookup} {d : DWorld} (h : DWorld.new w l = .ok d) :
    ∀ a ∈ d.archs, ∃ pa ∈ enabledArchs l w.archs, buildComps l pa.comps [] none = .ok a.comps := by
  intro a ha
  have h4 := (buildArchs_rule (DWorld_new_ok_iff.mp h).1).2.2
  have : (.ok a.comps : Except NewErr (List DComp)) ∈
      (enabledArchs l w.archs).map (fun a => buildComps l a.comps [] none) := by
    rw [← h4]; exact List.mem_map.mpr ⟨a, ha, rfl⟩
  obtain ⟨pa, hpa, hb⟩ := List.mem_map.mp this
  exact ⟨pa, hpa, hb⟩

/-- **C15, success.** `DWorld.new` succeeds iff
* every cfg list that is reached can be evaluated (`evaluateCfgs … ≠ none`, which
  `evaluateCfgs_eq_none_iff` spells out in terms of the lookup): those of all archetypes and
  those of the components of the *enabled* archetypes (components of disabled archetypes are
  never looked at);
* the archetype discriminants have no implicit successor of a value `≥ 255` and are distinct;
* the same two conditions hold for the component discriminants of every enabled archetype. -/
theorem ids_ok_iff (w : PWorld) (l : CfgLookup) :
    (∃ d, DWorld.new w l = .ok d) ↔
      (∀ a ∈ w.archs, evaluateCfgs l a.cfgs ≠ none) ∧
      (∀ a ∈ enabledArchs l w.archs, ∀ c ∈ a.comps, evaluateCfgs l c.cfgs ≠ none) ∧
      noOverflow ((enabledArchs l w.archs).map (·.id)) none = true ∧
      (discriminants ((enabledArchs l w.archs).map (·.id)) none).Nodup ∧
      ∀ a ∈ enabledArchs l w.archs,
        noOverflow ((enabledComps l a.comps).map (·.id)) none = true ∧
        (discriminants ((enabledComps l a.comps).map (·.id)) none).Nodup := by
  rw [DWorld_new_isOk_iff, buildArchs_eq_buildItems, buildItems_isOk_iff, assignIds_isOk_iff,
    List.map_map]
  simp only [buildComps_ok_iff]
  constructor
  · rintro ⟨hA, ⟨hC, hD, _⟩, hE⟩
    exact ⟨hA, fun a ha => (hE a ha).1, hC, hD, fun a ha => ⟨(hE a ha).2.1, (hE a ha).2.2.1⟩⟩
  · rintro ⟨hA, hB, hC, hD, hE⟩
    exact ⟨hA, ⟨hC, hD, by simp⟩, fun a ha => ⟨hB a ha, (hE a ha).1, (hE a ha).2, by simp⟩⟩

theorem ids_ok_iff_of_present (w : PWorld) (l : CfgLookup)
    (hl : ∀ a ∈ w.archs, (∀ p ∈ a.cfgs, lookupCfg l p ≠ none) ∧
      ∀ c ∈ a.comps, ∀ p ∈ c.cfgs, lookupCfg l p ≠ none) :
    (∃ d, DWorld.new w l = .ok d) ↔
      noOverflow ((enabledArchs l w.archs).map (·.id)) none = true ∧
      (discriminants ((enabledArchs l w.archs).map (·.id)) none).Nodup ∧
      ∀ a ∈ enabledArchs l w.archs,
        noOverflow ((enabledComps l a.comps).map (·.id)) none = true ∧
        (discriminants ((enabledComps l a.comps).map (·.id)) none).Nodup := by
  rw [ids_ok_iff, and_iff_right fun a ha => evaluateCfgs_ne_none_of_present (hl a ha).1,
    and_iff_right fun a (ha : a ∈ enabledArchs l w.archs) c hc =>
      evaluateCfgs_ne_none_of_present ((hl a (List.mem_filter.mp ha).1).2 c hc)]

/-- `Except` has no `DecidableEq` instance in core; needed to `decide` the examples. -/
instance instDecidableEqExceptMacIds {ε α : Type} [DecidableEq ε] [DecidableEq α] :
    DecidableEq (Except ε α)
  | .ok a, .ok b =>
    if h : a = b then isTrue (by rw [h]) else isFalse (by intro h'; cases h'; exact h rfl)
  | .error a, .error b =>
    if h : a = b then isTrue (by rw [h]) else isFalse (by intro h'; cases h'; exact h rfl)
  | .ok _, .error _ => isFalse (by intro h; cases h)
  | .error _, .ok _ => isFalse (by intro h; cases h)

namespace Ex

def arch (id : Option Nat) (name : String) (cfgs : List String := []) (comps : List PComp := []) :
    PArch := ⟨cfgs, id, name, comps⟩

def comp (id : Option Nat) (name : String) (cfgs : List String := []) : PComp := ⟨cfgs, id, name⟩

example : discriminants [some 5, none, some 2, none] none = [5, 6, 2, 3] := by decide +kernel
example : discriminants [none, some 0] none = [0, 0] := by decide +kernel
example : noOverflow [some 255, none] none = false := by decide +kernel
example : discriminants [none, none, none] none = [0, 1, 2] := by decide +kernel

/-- explicit ids descending: `[some 5, none, some 2, none] ↦ [5, 6, 2, 3]` -/
def wDesc : PWorld := ⟨"W", [arch (some 5) "A", arch none "B", arch (some 2) "C", arch none "D"]⟩

example : DWorld.new wDesc [] =
    .ok ⟨"W", [⟨5, "A", []⟩, ⟨6, "B", []⟩, ⟨2, "C", []⟩, ⟨3, "D", []⟩]⟩ := by decide +kernel

/-- an explicit id colliding with an implicit successor: `[none, some 0]`; the error is
attributed to the later item `B` and names the earlier holder `A` -/
def wDup : PWorld := ⟨"W", [arch none "A", arch (some 0) "B"]⟩

example : DWorld.new wDup [] = .error (.id (.duplicate 0 "B" "A")) := by decide +kernel

example : DuplicateAt (archItems (enabledArchs [] wDup.archs)) 0 "B" "A" :=
  duplicateAt_iff.mp (by decide +kernel)

/-- an implicit id colliding with an earlier explicit one: `[some 1, some 0, none]` -/
example : DWorld.new ⟨"W", [arch (some 1) "A", arch (some 0) "B", arch none "C"]⟩ [] =
    .error (.id (.duplicate 1 "C" "A")) := by decide +kernel

/-- `some 255` followed by `none`: the implicit id would be 256 -/
def wExc : PWorld := ⟨"W", [arch (some 255) "A", arch none "B"]⟩

example : DWorld.new wExc [] = .error (.id (.exceeds "B")) := by decide +kernel

example : ExceedsAt (archItems (enabledArchs [] wExc.archs)) "B" := exceedsAt_iff.mp (by decide +kernel)

/-- a cfg-disabled archetype in the middle consumes no id -/
def wCfg : PWorld := ⟨"W", [arch none "A", arch none "B" ["f"], arch none "C"]⟩

example : DWorld.new wCfg [("f", false)] = .ok ⟨"W", [⟨0, "A", []⟩, ⟨1, "C", []⟩]⟩ := by decide +kernel
example : DWorld.new wCfg [("f", true)] =
    .ok ⟨"W", [⟨0, "A", []⟩, ⟨1, "B", []⟩, ⟨2, "C", []⟩]⟩ := by decide +kernel
example : DWorld.new wCfg [] = .error .missingCfg := by decide +kernel
example : enabledArchs [("f", false)] wCfg.archs = [arch none "A", arch none "C"] := by decide +kernel

/-- a disabled archetype that would have collided / overflowed does no harm -/
example : DWorld.new ⟨"W", [arch (some 255) "A", arch none "B" ["f"], arch (some 255) "C" ["f"]]⟩
    [("f", false)] = .ok ⟨"W", [⟨255, "A", []⟩]⟩ := by decide +kernel

/-- components: ids restart per archetype, the same id may be used in two archetypes, a
disabled component consumes no id, and component errors are reported the same way -/
def wComps : PWorld :=
  ⟨"W", [arch none "A" [] [comp (some 3) "X", comp none "Y" ["f"], comp none "Z"],
         arch none "B" [] [comp none "X", comp (some 3) "Z"]]⟩

example : DWorld.new wComps [("f", false)] =
    .ok ⟨"W", [⟨0, "A", [⟨3, "X"⟩, ⟨4, "Z"⟩]⟩, ⟨1, "B", [⟨0, "X"⟩, ⟨3, "Z"⟩]⟩]⟩ := by decide +kernel
example : DWorld.new wComps [("f", true)] =
    .ok ⟨"W", [⟨0, "A", [⟨3, "X"⟩, ⟨4, "Y"⟩, ⟨5, "Z"⟩]⟩, ⟨1, "B", [⟨0, "X"⟩, ⟨3, "Z"⟩]⟩]⟩ := by
  decide +kernel
example : DWorld.new ⟨"W", [arch none "A" [] [comp (some 1) "X", comp (some 0) "Y", comp none "Z"]]⟩ [] =
    .error (.id (.duplicate 1 "Z" "X")) := by decide +kernel
example : DWorld.new ⟨"W", [arch none "A" [] [comp (some 255) "X", comp none "Y"]]⟩ [] =
    .error (.id (.exceeds "Y")) := by decide +kernel
/-- components of a disabled archetype are never looked at (their predicate may be missing) -/
example : DWorld.new ⟨"W", [arch none "A" ["f"] [comp none "X" ["g"]], arch none "B"]⟩ [("f", false)] =
    .ok ⟨"W", [⟨0, "B", []⟩]⟩ := by decide +kernel
/-- predicates after a `false` one are never looked up -/
example : evaluateCfgs [("f", false)] ["f", "g"] = some false := by decide +kernel
example : evaluateCfgs [("f", false)] ["g", "f"] = none := by decide +kernel

/-- why `C15_u8` and the `m = 256` clause of `ExceedsAt` need the `u8` hypothesis: the model
itself does not bound explicit ids (the Rust parser does, by parsing them as `u8`) -/
example : DWorld.new ⟨"W", [arch (some 300) "A"]⟩ [] = .ok ⟨"W", [⟨300, "A", []⟩]⟩ := by decide +kernel
example : DWorld.new ⟨"W", [arch (some 300) "A", arch none "B"]⟩ [] =
    .error (.id (.exceeds "B")) := by decide +kernel

/-- the hypotheses of `C15_u8` hold for these declarations -/
example : (∀ a ∈ wComps.archs, ∀ n, a.id = some n → n ≤ 255) ∧
    (∀ a ∈ wComps.archs, ∀ c ∈ a.comps, ∀ n, c.id = some n → n ≤ 255) := by
  simp [wComps, arch, comp]

/-- the right-hand side of `ids_ok_iff` is decidable and holds for `wComps` -/
example : (∀ a ∈ wComps.archs, evaluateCfgs [("f", false)] a.cfgs ≠ none) ∧
    (∀ a ∈ enabledArchs [("f", false)] wComps.archs, ∀ c ∈ a.comps,
      evaluateCfgs [("f", false)] c.cfgs ≠ none) ∧
    noOverflow ((enabledArchs [("f", false)] wComps.archs).map (·.id)) none = true ∧
    (discriminants ((enabledArchs [("f", false)] wComps.archs).map (·.id)) none).Nodup ∧
    ∀ a ∈ enabledArchs [("f", false)] wComps.archs,
      noOverflow ((enabledComps [("f", false)] a.comps).map (·.id)) none = true ∧
      (discriminants ((enabledComps [("f", false)] a.comps).map (·.id)) none).Nodup := by
  decide +kernel

end Ex

#print axioms buildComps_rule
#print axioms buildArchs_rule
#print axioms ids_rule_comps
#print axioms ids_ok_iff
#print axioms ids_ok_iff_of_present
#print axioms ids_error_missingCfg
#print axioms duplicateAt_iff
#print axioms exceedsAt_iff
#print axioms evaluateCfgs_eq_none_iff

end Gecs.Mac
