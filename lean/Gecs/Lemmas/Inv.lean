/-
The representation invariant of one storage (`Inv`) and of a world (`WInv`), with the facts
about the free chain and the dense array that the operation lemmas share.
Everything the property theorems need about reachable states goes through these.
-/
import Gecs.Model.Storage
import Gecs.Model.World

namespace Gecs

variable {α : Type}

/-- The free chain starting at `h` visits exactly the slot indices in `L`, in order. -/
inductive Chain (slots : List Slot) : SIdx → List Nat → Prop where
  | nil : Chain slots .freeEnd []
  | cons {s : Nat} {sl : Slot} {L : List Nat} :
      slots[s]? = some sl → sl.idx.isFree = true →
      Chain slots sl.idx L → Chain slots (.free s) (s :: L)

structure Inv (cfg : Cfg) (s : Storage α) : Prop where
  slotsLen : s.slots.length = s.capacity
  entsLen : s.ents.length = s.len
  colsLen : ∀ c ∈ s.cols, c.length = s.len
  lenCap : s.len ≤ s.capacity
  capMax : s.capacity ≤ cfg.maxCap
  /-- dense ⇒ sparse: the slot of the handle stored at dense index `d` points back to `d`
  and carries the handle's generation -/
  dense : ∀ (d : Nat) (e : Ent), s.ents[d]? = some e → s.slots[e.slot]? = some (Slot.mk (.data d) e.ver)
  /-- sparse ⇒ dense -/
  sparse : ∀ (i d v : Nat), s.slots[i]? = some (Slot.mk (.data d) v) → s.ents[d]? = some (Ent.mk i v)
  /-- the free chain has `capacity − len` distinct nodes, each a free slot (`Chain.mem_free`) -/
  chain : ∃ L, Chain s.slots s.freeHead L ∧ L.Nodup ∧ L.length + s.len = s.capacity
  /-- generations stay in `1..=vmax` -/
  verPos : ∀ (i : Nat) (sl : Slot), s.slots[i]? = some sl → 1 ≤ sl.ver ∧ sl.ver ≤ cfg.vmax
  archVer : 1 ≤ s.version ∧ s.version ≤ cfg.vmax

/-- World invariant: one id per archetype, ids pairwise distinct and below 256, every
storage satisfies `Inv`. -/
structure WInv (cfg : Cfg) (w : World α) : Prop where
  idsLen : w.ids.length = w.archs.length
  idsNodup : w.ids.Nodup
  idsLt : ∀ i ∈ w.ids, i < ID_RANGE
  inv : ∀ s ∈ w.archs, Inv cfg s

/-- Sanity conditions on the constants (true of the real ones, see Gen/Consts). -/
structure CfgOk (cfg : Cfg) : Prop where
  vmaxPos : 1 ≤ cfg.vmax

theorem getElem?_set_of_lt {β : Type} {l : List β} {i : Nat} (hi : i < l.length) (a : β) (j : Nat) :
    (l.set i a)[j]? = if j = i then some a else l[j]? := by
  by_cases h : j = i
  · rw [if_pos h, h, List.getElem?_set_self hi]
  · rw [if_neg h, List.getElem?_set_ne (Ne.symm h)]

/-- The two slot writes of `force_destroy`; the later write wins. -/
theorem getElem?_set_set_of_lt {β : Type} {l : List β} {i j : Nat} (hi : i < l.length)
    (hj : j < l.length) (a b : β) (k : Nat) :
    ((l.set j b).set i a)[k]? = if k = i then some a else if k = j then some b else l[k]? := by
  rw [getElem?_set_of_lt (by rwa [List.length_set]), getElem?_set_of_lt hj]

theorem Chain.mem_free {slots : List Slot} {h : SIdx} {L : List Nat}
    (c : Chain slots h L) : ∀ i ∈ L, ∃ sl, slots[i]? = some sl ∧ sl.idx.isFree = true := by
  induction c with
  | nil => intro i hi; cases hi
  | cons hs hf _ ih =>
    intro i hi
    cases hi with
    | head => exact ⟨_, hs, hf⟩
    | tail _ h => exact ih i h

theorem Chain.set_not_mem {slots : List Slot} {h : SIdx} {L : List Nat}
    (c : Chain slots h L) (j : Nat) (x : Slot) (hj : j ∉ L) :
    Chain (slots.set j x) h L := by
  induction c with
  | nil => exact .nil
  | @cons s sl L' hs hf _ ih =>
    have hne : j ≠ s := fun h => hj (h ▸ List.mem_cons_self)
    refine .cons (sl := sl) ?_ hf (ih (fun h => hj (List.mem_cons_of_mem _ h)))
    rw [List.getElem?_set_ne hne]; exact hs

theorem Chain.head_isFree {slots : List Slot} {h : SIdx} {L : List Nat}
    (c : Chain slots h L) : h.isFree = true := by
  cases c <;> rfl

/-- The slot update of `presetVersions`: it leaves the links alone. -/
theorem Chain.map_ver {slots : List Slot} {hd : SIdx} {L : List Nat} (sv : Nat)
    (c : Chain slots hd L) : Chain (slots.map (fun sl => { sl with ver := sv })) hd L := by
  induction c with
  | nil => exact .nil
  | @cons i sl L' hs hf _ ih =>
    refine .cons (sl := { sl with ver := sv }) ?_ hf ih
    rw [List.getElem?_map, hs]; rfl

theorem ents_slot_unique {cfg : Cfg} {s : Storage α} (h : Inv cfg s) (i j : Nat) (e e' : Ent)
    (hi : s.ents[i]? = some e) (hj : s.ents[j]? = some e') (hs : e.slot = e'.slot) :
    i = j ∧ e = e' := by
  have a := h.dense i e hi
  rw [hs, h.dense j e' hj] at a
  cases (Slot.mk.inj (Option.some.inj a)).1
  rw [hi] at hj
  exact ⟨rfl, Option.some.inj hj⟩

theorem ents_index_unique {cfg : Cfg} {s : Storage α} (h : Inv cfg s) (i j : Nat) (e : Ent)
    (hi : s.ents[i]? = some e) (hj : s.ents[j]? = some e) : i = j :=
  (ents_slot_unique h i j e e hi hj rfl).1

theorem ents_nodup {cfg : Cfg} {s : Storage α} (h : Inv cfg s) : s.ents.Nodup := by
  rw [List.nodup_iff_pairwise_ne, List.pairwise_iff_getElem]
  intro i j hi hj hij heq
  have a : s.ents[i]? = some s.ents[i] := List.getElem?_eq_getElem hi
  have b : s.ents[j]? = some s.ents[i] := by rw [heq]; exact List.getElem?_eq_getElem hj
  exact absurd (ents_index_unique h i j _ a b) (Nat.ne_of_lt hij)

variable {cfg : Cfg} {s : Storage α}

theorem Inv.cfgOk (h : Inv cfg s) : CfgOk cfg :=
  ⟨Nat.le_trans h.archVer.1 h.archVer.2⟩

theorem Inv.len_le_maxCap (h : Inv cfg s) : s.len ≤ cfg.maxCap :=
  Nat.le_trans h.lenCap h.capMax

/-- `is_empty()` is exact. -/
theorem is_empty_iff (h : Inv cfg s) : s.len = 0 ↔ s.ents = [] := by
  rw [← h.entsLen]; exact List.length_eq_zero_iff

theorem Inv.ents_lt (h : Inv cfg s) {d : Nat} {e : Ent} (hd : s.ents[d]? = some e) : d < s.len :=
  h.entsLen ▸ (List.getElem?_eq_some_iff.mp hd).1

theorem Inv.ents_get (h : Inv cfg s) {d : Nat} (hd : d < s.len) : ∃ e, s.ents[d]? = some e :=
  ⟨_, List.getElem?_eq_getElem (h.entsLen ▸ hd)⟩

/-- The column-validity test of `readRow` (and of the slice accessors) under `colsLen`. -/
theorem Inv.cols_all_len (h : Inv cfg s) : s.cols.all (fun c => c.length == s.len) = true :=
  List.all_eq_true.mpr fun c hc => beq_iff_eq.mpr (h.colsLen c hc)

theorem Inv.slot_lt (h : Inv cfg s) {i : Nat} {sl : Slot} (hi : s.slots[i]? = some sl) :
    i < s.capacity :=
  h.slotsLen ▸ (List.getElem?_eq_some_iff.mp hi).1

theorem Inv.ents_slot_lt (h : Inv cfg s) {d : Nat} {e : Ent} (hd : s.ents[d]? = some e) :
    e.slot < s.capacity :=
  h.slot_lt (h.dense d e hd)

theorem Inv.not_mem_of_free (h : Inv cfg s) {e : Ent} {sl : Slot}
    (hs : s.slots[e.slot]? = some sl) (hf : sl.idx.isFree = true) : e ∉ s.ents := by
  intro hm
  obtain ⟨d, hd⟩ := List.getElem?_of_mem hm
  rw [h.dense d e hd] at hs; cases hs; cases hf

theorem Inv.live_not_mem_chain (h : Inv cfg s) {L : List Nat} (hc : Chain s.slots s.freeHead L)
    {d : Nat} {e : Ent} (hd : s.ents[d]? = some e) : e.slot ∉ L := fun hm =>
  let ⟨_, h1, h2⟩ := hc.mem_free _ hm
  h.not_mem_of_free h1 h2 (List.mem_of_getElem? hd)

end Gecs

section
open Gecs
#print axioms ents_nodup
#print axioms ents_index_unique
#print axioms is_empty_iff
end
