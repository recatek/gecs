/-
The guard chains of `StorageN::resolve_entity` / `resolve_direct`, TRANSLATED statement by
statement from the current source (Gecs/Gen/Steps.lean), decide the properties about handles:
the consequences of Lemmas/GenResolve.lean in the words of C01 / C03 / C09, and the
fully statement-level `destroy` (extracted lookup followed by the extracted `force_destroy`).
-/
import Gecs.Lemmas.GenResolve
import Gecs.Lemmas.GenStepsApi

-- OBLIGATIONS(C01): Gecs.gen_steps_resolve_entity Gecs.GenResolve_C01_accepts_iff_alive Gecs.GenResolve_destroy_all_statements
-- OBLIGATIONS(C03): Gecs.gen_steps_resolve_entity Gecs.gen_steps_resolve_direct Gecs.GenResolve_C03_never_ub
-- OBLIGATIONS(C09): Gecs.gen_steps_resolve_direct Gecs.GenResolve_C09_direct_accepts_iff_current Gecs.GenResolve_destroy_all_statements
-- OBLIGATIONS(C08): Gecs.gen_steps_resolve_entity
-- OBLIGATIONS(C14): Gecs.gen_steps_resolve_entity Gecs.gen_steps_resolve_direct

namespace Gecs

variable {α : Type}

/-- C01 for the extracted guard chain: in every invariant state, for ANY handle words, the
statements of `resolve_entity` accept iff the handle is in the dense array (its entity is
alive), and then return its slot. -/
theorem GenResolve_C01_accepts_iff_alive (cfg : Cfg) (s : Storage α) (h : Inv cfg s) (e : Ent) :
    (∃ d, execResolveEntity cfg Gen.resolveEntitySteps s e = .ok (some (e.slot, d)) s) ↔ e ∈ s.ents := by
  rw [gen_steps_resolve_entity cfg s e h.lenCap]; exact resolveEntity_iff_mem cfg s h e

/-- C09 for the extracted guard chain: a direct handle is accepted iff it carries the CURRENT
archetype version and a dense index below `len`. -/
theorem GenResolve_C09_direct_accepts_iff_current (cfg : Cfg) (s : Storage α) (d v : Nat) (h : Inv cfg s) :
    (∃ si, execResolveDirect cfg Gen.resolveDirectSteps s d v = .ok (some (si, d)) s)
      ↔ (v = s.version ∧ d < s.len) := by
  rw [gen_steps_resolve_direct cfg s d v h.lenCap]; exact resolveDirect_iff cfg s d v h

/-- C03 for the extracted guard chains: whatever the handle words, no unchecked access of the
two lookups is reached outside its contract. -/
theorem GenResolve_C03_never_ub (cfg : Cfg) (s : Storage α) (h : Inv cfg s) (e : Ent) (d v : Nat) :
    (∀ m, execResolveEntity cfg Gen.resolveEntitySteps s e ≠ .ub m)
    ∧ (∀ m, execResolveDirect cfg Gen.resolveDirectSteps s d v ≠ .ub m) := by
  rw [gen_steps_resolve_entity cfg s e h.lenCap, gen_steps_resolve_direct cfg s d v h.lenCap]
  exact ⟨resolveEntity_not_ub cfg s e h, resolveDirect_not_ub cfg s d v h⟩

/-- `destroy(Entity<A>)` with NOTHING hand-written below the API level: the extracted lookup,
then the extracted `force_destroy`. -/
def destroyEntSS (cfg : Cfg) (s : Storage α) (e : Ent) : Out (Storage α) (Option (List α)) :=
  match execResolveEntity cfg Gen.resolveEntitySteps s e with
  | .ok (some (si, d)) _ =>
    (match execDestroy cfg Gen.slotBodies Gen.forceDestroySteps s si d with
    | .ok r s' => .ok (some r) s'
    | .panic m s' => .panic m s'
    | .ub m => .ub m)
  | .ok none _ => .ok none s
  | .panic m s' => .panic m s'
  | .ub m => .ub m

/-- `destroy(EntityDirect<A>)`, likewise. -/
def destroyDirectSS (cfg : Cfg) (s : Storage α) (d v : Nat) : Out (Storage α) (Option (List α)) :=
  match execResolveDirect cfg Gen.resolveDirectSteps s d v with
  | .ok (some (si, d')) _ =>
    (match execDestroy cfg Gen.slotBodies Gen.forceDestroySteps s si d' with
    | .ok r s' => .ok (some r) s'
    | .panic m s' => .panic m s'
    | .ub m => .ub m)
  | .ok none _ => .ok none s
  | .panic m s' => .panic m s'
  | .ub m => .ub m

/-- `destroyEntSS` / `destroyDirectSS` are the model's `destroyEnt` / `destroyDirect` in every
invariant state. -/
theorem GenResolve_destroy_all_statements (cfg : Cfg) (s : Storage α) (h : Inv cfg s) (e : Ent) (d v : Nat) :
    Out.same (destroyEntSS cfg s e) (destroyEnt cfg s e)
    ∧ Out.same (destroyDirectSS cfg s d v) (destroyDirect cfg s d v) := by
  have he : destroyEntSS cfg s e = destroyEntS cfg s e := by
    unfold destroyEntSS destroyEntS; rw [gen_steps_resolve_entity cfg s e h.lenCap]; rfl
  have hd : destroyDirectSS cfg s d v = destroyDirectS cfg s d v := by
    unfold destroyDirectSS destroyDirectS; rw [gen_steps_resolve_direct cfg s d v h.lenCap]; rfl
  rw [he, hd]
  exact ⟨gen_steps_destroy_ent cfg s e h, gen_steps_destroy_direct cfg s d v h⟩

/-- Non-vacuity: on a populated storage the extracted chain accepts the live handle and
rejects the same slot with another generation, a forged out-of-range slot and a stale direct
handle (release profile). -/
example :
    execResolveEntity f1Cfg Gen.resolveEntitySteps f1State ⟨0, 1⟩ = .ok (some (0, 0)) f1State
    ∧ execResolveEntity f1Cfg Gen.resolveEntitySteps f1State ⟨0, 2⟩ = .ok none f1State
    ∧ execResolveEntity f1Cfg Gen.resolveEntitySteps f1State ⟨9, 1⟩ = .ok none f1State
    ∧ execResolveDirect f1Cfg Gen.resolveDirectSteps f1State 0 7 = .ok (some (0, 0)) f1State
    ∧ execResolveDirect f1Cfg Gen.resolveDirectSteps f1State 0 6 = .ok none f1State := by
  refine ⟨?_, ?_, ?_, ?_, ?_⟩ <;> rfl

end Gecs
