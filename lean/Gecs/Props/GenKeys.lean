/-
The six `StorageCanResolve` methods TRANSLATED statement by statement (Gen/Steps.lean:
`entResolveFor`, `entToDirect`, `entDestroy`, `dirResolveFor`, `dirToDirect`, `dirDestroy`):
obligation lists for Lemmas/GenKeys.lean and two consequences in the words of C09 — what
`to_direct` returns for a live handle, and that a stale direct key is NOT handed back (F4).
-/
import Gecs.Lemmas.GenKeys

-- OBLIGATIONS(C01): Gecs.gen_keys_resolve_for_ent Gecs.gen_keys_to_direct_ent Gecs.gen_keys_destroy_ent
-- OBLIGATIONS(C09): Gecs.gen_keys_to_direct_ent Gecs.gen_keys_to_direct_direct Gecs.gen_keys_resolve_for_direct Gecs.gen_keys_destroy_direct Gecs.GenKeys_C09_to_direct_issues_current Gecs.GenKeys_C09_stale_direct_not_returned
-- OBLIGATIONS(C03): Gecs.gen_keys_resolve_for_ent Gecs.gen_keys_resolve_for_direct
-- OBLIGATIONS(C02): Gecs.gen_keys_resolve_for_ent Gecs.gen_keys_resolve_for_direct
-- OBLIGATIONS(C17): Gecs.gen_keys_destroy_ent Gecs.gen_keys_destroy_direct

namespace Gecs

variable {α : Type}

/-- C09: `to_direct` of a live handle, as extracted, issues (its dense index, the CURRENT
archetype version). -/
theorem GenKeys_C09_to_direct_issues_current (cfg : Cfg) (s : Storage α) (h : Inv cfg s) {d : Nat} {e : Ent}
    (hd : s.ents[d]? = some e) :
    execKey cfg Gen.lookups Gen.entToDirect s (.ent e) = .ok (some (.direct d s.version)) s := by
  rw [gen_keys_to_direct_ent cfg s e h.lenCap, toDirectEnt_of_mem h hd]; rfl

/-- C09 / F4: `to_direct` of a direct key that is not current (older version, or index past
`len`), as extracted, never returns `Some`. -/
theorem GenKeys_C09_stale_direct_not_returned (cfg : Cfg) (s : Storage α) (d v : Nat) (h : Inv cfg s)
    (hn : ¬ (v = s.version ∧ d < s.len)) (x : WVal α) (s' : Storage α) :
    execKey cfg Gen.lookups Gen.dirToDirect s (.direct d v) ≠ .ok (some x) s' := by
  rw [gen_keys_to_direct_direct cfg s d v h.lenCap]
  rcases Out.miss_cases (toDirectDirect_of_not hn) with h1 | ⟨h1, _⟩ <;> rw [h1] <;>
    simp [Out.mapSome]

end Gecs
