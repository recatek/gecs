/-
C19 — Crate features and build profiles change nothing but what they document.
Model: the whole model is PARAMETRIC in `Cfg` (Gecs/Model/Storage.lean):
  `events`   = feature "events"            (read only where `created`/`destroyed` are appended)
  `wrapping` = feature "wrapping_version"  (read only in `nextVer`, at `v = vmax`)
  `debug`    = debug assertions on/off     (read only where a `debug_assert!` stands)
  `maxCap`, `vmax` = MAX_DATA_CAPACITY, u32::MAX (symbolic).
The other property theorems (C01 … C18) are stated `∀ cfg`, with an explicit
`cfg.wrapping = false` hypothesis where the property itself makes the exception (C01, C08, C09;
`destroyLoop_spec_wrapping` takes `wrapping = true`, `C03_typed_debug_match_is_bit_identical`
`debug = true`, `C17_logs` / `C17_since_clear` `events = true`), and for any number of columns — the feature "32_components" only raises the
arity limit of the macros and has no counterpart in the model (`C19_arity_generic`).
Tied to the real code by running harness/rt under every feature combination and both
profiles (the `cfg` line of each trace selects the `Cfg` the driver replays it with).

This file proves the CROSS-configuration statements, each at the storage-operation level
AND lifted to `stepOp` / `run` (all histories, arbitrary handles and closures):
* `events`: erasing the logs commutes with everything (`C19_events_only_adds_logs`, `…_run`);
* `wrapping_version`: the two builds agree below `vmax` (`C19_wrapping_only_at_vmax`), and a
  whole history runs identically unless the checked build raises one of the two documented
  overflow panics (`C19_wrapping_only_at_vmax_run`); beyond that point `Inv` / no-`ub` still
  hold with the feature (`C19_wrapping_beyond_vmax_safe`, instances of `∀ cfg` theorems);
* debug assertions: `resolveEntity` / `resolveDirect` agree in the two profiles on every in-range key
  (`C19_debug_irrelevant_for_valid_keys`; the typed conversion `from_any_unchecked` is
  `C19_from_any_unchecked`), keys issued by the API stay in range
  (`C19_issued_keys_never_trip_debug`), and a whole history runs identically unless the debug
  build trips a `debug_assert` (`C19_debug_irrelevant_run`); for out-of-range forged keys the
  only difference is `panic` vs `None` (`C19_debug_only_difference`).
`Clean X u c w ops` (Lemmas/Robust.lean) says: no operation of the run of `ops` from `w` under
`c` ends in a panic whose message is in `X` (nor, if `u`, in `ub`); `cleanB` is its executable
form.  `isOverflowMsg` = the two overflow messages, `isDebugMsg` = the messages of the model's
`debug_assert!` / `debug_checked_assume!` sites.
Not covered here: `cfg(feature = …)` selection in the macro crate (C15/C16 cover `cfg`
predicates on archetypes/components), and the performance-only effect of the features.
-/
import Gecs.Lemmas.Robust
import Gecs.Lemmas.Bits
import Gecs.Lemmas.GenTie

-- OBLIGATIONS: Gecs.C19_events_only_adds_logs Gecs.C19_events_only_adds_logs_run Gecs.C19_events_lookups
-- OBLIGATIONS: Gecs.C19_wrapping_only_at_vmax Gecs.C19_wrapping_only_at_vmax_run Gecs.C19_wrapping_beyond_vmax_safe
-- OBLIGATIONS: Gecs.C19_wrapping_reuse_documented Gecs.C19_debug_irrelevant_for_valid_keys Gecs.C19_debug_only_difference
-- OBLIGATIONS: Gecs.C19_debug_destroy Gecs.C19_issued_keys_never_trip_debug Gecs.C19_debug_irrelevant_run
-- OBLIGATIONS: Gecs.C19_from_any_unchecked Gecs.C19_inv_ignores_features Gecs.C19_arity_generic
-- OBLIGATIONS: Gecs.gen_features Gecs.gen_arities Gecs.gen_version_max

namespace Gecs
variable {α : Type}

/-! ## `events` -/

/-- With `eraseLogs s = { s with created := [], destroyed := [] }` and
`cfgOff cfg = { cfg with events := false }`: every storage operation run with `cfg` (feature
on or off) on `s`, logs of the result erased, IS the operation run with the feature off on the
log-erased state — same returned value, same panic message, same `ub`.  No `Inv` needed: the
event vectors are never read, only appended to.  (`Clone` copies the logs, hence the value of
`cloneStorage` is erased as well.) -/
theorem C19_events_only_adds_logs (cfg : Cfg) (s : Storage α) :
    (∀ row, (forceCreate cfg s row).mapState eraseLogs
        = forceCreate (cfgOff cfg) (eraseLogs s) row)
    ∧ (∀ g row, (push cfg g s row).mapState eraseLogs = push (cfgOff cfg) g (eraseLogs s) row)
    ∧ (∀ row, (pushWithin cfg s row).mapState eraseLogs
        = pushWithin (cfgOff cfg) (eraseLogs s) row)
    ∧ (∀ si d, (forceDestroy cfg s si d).mapState eraseLogs
        = forceDestroy (cfgOff cfg) (eraseLogs s) si d)
    ∧ (∀ e, (destroyEnt cfg s e).mapState eraseLogs = destroyEnt (cfgOff cfg) (eraseLogs s) e)
    ∧ (∀ d v, (destroyDirect cfg s d v).mapState eraseLogs
        = destroyDirect (cfgOff cfg) (eraseLogs s) d v)
    ∧ (∀ e, (resolveEntity cfg s e).mapState eraseLogs
        = resolveEntity (cfgOff cfg) (eraseLogs s) e)
    ∧ (∀ d v, (resolveDirect cfg s d v).mapState eraseLogs
        = resolveDirect (cfgOff cfg) (eraseLogs s) d v)
    ∧ (∀ d c x, eraseLogs (writeCell s d c x) = writeCell (eraseLogs s) d c x)
    ∧ (∀ cl, ((cloneStorage cl s).mapState eraseLogs).mapVal eraseLogs
        = cloneStorage cl (eraseLogs s))
    ∧ eraseLogs (clearEvents s) = eraseLogs s
    ∧ (∀ d, readRow (eraseLogs s) d = readRow s d)
    ∧ dropStorage (eraseLogs s) = dropStorage s :=
  ⟨forceCreate_eraseLogs cfg s, fun g row => push_eraseLogs cfg g s row,
   pushWithin_eraseLogs cfg s, forceDestroy_eraseLogs cfg s, destroyEnt_eraseLogs cfg s,
   destroyDirect_eraseLogs cfg s, resolveEntity_eraseLogs cfg s, resolveDirect_eraseLogs cfg s,
   fun _ _ _ => rfl, fun cl => cloneStorage_eraseLogs cl s, rfl, fun _ => rfl, rfl⟩

/-- `C19_events_only_adds_logs` for every world-level lookup (`contains`/`resolve`, `to_direct`,
`view`/`borrow`). -/
theorem C19_events_lookups (cfg : Cfg) (w : World α) (r : Route) (direct : Bool) :
    (w.contains cfg r direct).mapWorld World.eraseLogs
        = w.eraseLogs.contains (cfgOff cfg) r direct
    ∧ (w.toDirect cfg r direct).mapWorld World.eraseLogs
        = w.eraseLogs.toDirect (cfgOff cfg) r direct
    ∧ (w.fetch cfg r direct).mapWorld World.eraseLogs
        = w.eraseLogs.fetch (cfgOff cfg) r direct := by
  rw [World.eraseLogs_eq_map]
  refine ⟨lookup_sim w _ _ (fun _ => rfl) (fun s k _ => storageResolve_eraseLogs cfg s direct k)
      (WOut.excused_never _), ?_,
    lookup_sim w _ _ (fun _ => rfl)
      (fun s k _ => (stSim_eraseLogs cfg).sfetch s direct k (Out.excused_never _))
      (WOut.excused_never _)⟩
  unfold World.toDirect
  cases r with
  | absent => rfl
  | panic m => rfl
  | arch a k =>
    exact lookup_sim w _ _ (fun _ => rfl) (fun s k _ => storageToDirect_eraseLogs cfg _ s direct k)
      (WOut.excused_never _)

/-- `C19_events_only_adds_logs` for every operation of the API (`stepOp`; arbitrary handles,
arbitrary closures: the closures are handed the same arguments), and for ALL histories: running
with the feature and erasing the logs at the end is running without the feature on the
log-erased world.  In particular the feature never changes whether `ub` is reached (`none`),
which operations panic, which handles are issued, or any component value.  No `WInv` needed. -/
theorem C19_events_only_adds_logs_run (cfg : Cfg) (w : World α) :
    (∀ op, (stepOp cfg w op).mapWorld World.eraseLogs = stepOp (cfgOff cfg) w.eraseLogs op)
    ∧ (∀ ops, (run cfg w ops).map World.eraseLogs = run (cfgOff cfg) w.eraseLogs ops) := by
  rw [World.eraseLogs_eq_map]
  exact ⟨fun op => stepOp_sim (stSim_eraseLogs cfg) w op (Res.excused_never _),
    fun ops => run_sim (stSim_eraseLogs cfg) ops w (Clean.never cfg ops w)⟩

/-! ## `wrapping_version` -/

/-- Below `vmax` the feature is invisible: `nextVer` agrees, hence `force_destroy` and both
`destroy` paths agree (same outcome, same state) whenever the released slot's generation and
the archetype version are `< vmax`. -/
theorem C19_wrapping_only_at_vmax (cfg : Cfg) :
    (∀ v, v < cfg.vmax →
        nextVer { cfg with wrapping := true } v = nextVer { cfg with wrapping := false } v)
    ∧ (∀ (s : Storage α) (si d : Nat),
        (∀ sl, s.slots[si]? = some sl → sl.ver < cfg.vmax) → s.version < cfg.vmax →
        forceDestroy { cfg with wrapping := true } s si d
          = forceDestroy { cfg with wrapping := false } s si d)
    ∧ (∀ (s : Storage α) (e : Ent), Inv cfg s → e.ver < cfg.vmax → s.version < cfg.vmax →
        destroyEnt { cfg with wrapping := true } s e
          = destroyEnt { cfg with wrapping := false } s e)
    ∧ (∀ (s : Storage α) (d v : Nat), Inv cfg s →
        (∀ t, s.ents[d]? = some t → t.ver < cfg.vmax) → s.version < cfg.vmax →
        destroyDirect { cfg with wrapping := true } s d v
          = destroyDirect { cfg with wrapping := false } s d v) :=
  have hI : ∀ {s : Storage α}, Inv cfg s → Inv { cfg with wrapping := false } s :=
    fun h => h.congr_cfg rfl rfl
  ⟨fun _ h => nextVer_wrapping_agree cfg h,
   fun s si d h1 h2 => forceDestroy_congr_cfg s si d rfl
     (fun sl h => nextVer_wrapping_agree cfg (h1 sl h)) (nextVer_wrapping_agree cfg h2),
   -- below `vmax` the checked build raises no overflow panic, and then the two builds agree
   fun s e h h1 h2 => ((opsSim_wrapping cfg).destroyEnt s e
     (destroyEnt_no_overflow_below_vmax (hI h) e h1 h2)).symm,
   fun s d v h h1 h2 => ((opsSim_wrapping cfg).destroyDirect s d v
     (destroyDirect_no_overflow_below_vmax (hI h) d v h1 h2)).symm⟩

/-- Whole histories.  Unless the checked build (no `wrapping_version`) raises one of the two
documented overflow panics — which under `Inv` happens only when the released slot's
generation or the archetype version is at `vmax` — every operation has the same outcome and
the history the same result with the feature.  Equalities of model terms: no `WInv` needed,
arbitrary handles and closures. -/
theorem C19_wrapping_only_at_vmax_run (cfg : Cfg) (w : World α) :
    (∀ op, (stepOp { cfg with wrapping := false } w op).excused isOverflowMsg false = false →
        stepOp { cfg with wrapping := false } w op = stepOp { cfg with wrapping := true } w op)
    ∧ (∀ ops, Clean isOverflowMsg false { cfg with wrapping := false } w ops →
        run { cfg with wrapping := false } w ops = run { cfg with wrapping := true } w ops)
    ∧ (∀ (s : Storage α) (e : Ent), Inv cfg s → e.ver < cfg.vmax → s.version < cfg.vmax →
        (destroyEnt cfg s e).excused isOverflowMsg false = false)
    ∧ (∀ (s : Storage α) (d v : Nat), Inv cfg s →
        (∀ t, s.ents[d]? = some t → t.ver < cfg.vmax) → s.version < cfg.vmax →
        (destroyDirect cfg s d v).excused isOverflowMsg false = false) :=
  ⟨fun op h => stepOp_agree (opsSim_wrapping cfg) w op h,
   fun ops h => run_agree (opsSim_wrapping cfg) ops w h,
   fun _ e h h1 h2 => destroyEnt_no_overflow_below_vmax h e h1 h2,
   fun _ d v h h1 h2 => destroyDirect_no_overflow_below_vmax h d v h1 h2⟩

/-- At and beyond `vmax` the wrapping configuration still preserves `Inv` — `force_destroy` of a
live entity never panics with the feature, also at `vmax` (`forceDestroy_ok` is `∀ cfg`) —
and never reaches `ub`: `run_inv` is `∀ cfg`, here instantiated at a wrapping configuration.
"May let an ancient handle match again but never causes undefined behaviour." -/
theorem C19_wrapping_beyond_vmax_safe {cfg : Cfg} (hwr : cfg.wrapping = true) :
    (∀ (s : Storage α) (si d v : Nat), Inv cfg s → s.slots[si]? = some ⟨.data d, v⟩ →
        ∃ row s', forceDestroy cfg s si d = .ok row s' ∧ Inv cfg s' ∧ s'.len = s.len - 1
          ∧ s'.capacity = s.capacity)
    ∧ (∀ (w : World α) (ops : List (Op α)), WInv cfg w → CfgOk cfg → OpsOk cfg ops →
        OpsScoped w.sch ops → ∃ w', run cfg w ops = some w' ∧ WInv cfg w') := by
  refine ⟨fun s si d v h hsl => ?_, fun w ops hw hc ho hs => ?_⟩
  · obtain ⟨sv, hsv⟩ := nextVer_wrapping_some hwr v
    obtain ⟨av, hav⟩ := nextVer_wrapping_some hwr s.version
    obtain ⟨row, s', h1, r⟩ := forceDestroy_ok cfg s si d v h hsl sv av hsv hav
    exact ⟨row, s', h1, r.inv, r.len, r.cap⟩
  · obtain ⟨w', h1, h2, _⟩ := run_inv hw hc ho hs
    exact ⟨w', h1, h2⟩

/-- The documented reuse: with the feature (and only with it, see C08) a handle is issued a
second time after its slot's generation wrapped (`vmax = 2`, one slot). -/
theorem C19_wrapping_reuse_documented :
    ∃ (s0 s1 s2 s3 s4 s5 : Storage Nat) (e e' : Ent) (r1 r2 : List Nat),
      HistEx.cfgW.wrapping = true ∧ HistEx.cfgW.vmax = 2
      ∧ withCapacity HistEx.cfgW 1 1 = .ok () s0
      ∧ pushWithin HistEx.cfgW s0 [7] = .ok (some e) s1
      ∧ destroyEnt HistEx.cfgW s1 e = .ok (some r1) s2
      ∧ pushWithin HistEx.cfgW s2 [8] = .ok (some e') s3
      ∧ destroyEnt HistEx.cfgW s3 e' = .ok (some r2) s4
      ∧ pushWithin HistEx.cfgW s4 [9] = .ok (some e) s5 :=
  C08_wrapping_witness

/-! ## Debug assertions -/

/-- `Inv` mentions neither the build profile nor the two features (nor does `WInv`:
`WInv.congr_cfg`, Lemmas/Robust.lean). -/
theorem C19_inv_ignores_features {cfg : Cfg} {s : Storage α} (b : Bool) :
    (Inv { cfg with debug := b } s ↔ Inv cfg s)
    ∧ (Inv { cfg with wrapping := b } s ↔ Inv cfg s)
    ∧ (Inv { cfg with events := b } s ↔ Inv cfg s) :=
  ⟨Inv.cfg_iff rfl rfl, Inv.cfg_iff rfl rfl, Inv.cfg_iff rfl rfl⟩

/-- For keys that are in range — every key ever issued is — debug and release builds answer
identically: under `Inv` no debug assertion can fire. -/
theorem C19_debug_irrelevant_for_valid_keys {cfg : Cfg} {s : Storage α} (h : Inv cfg s) :
    (∀ e : Ent, e.slot < s.capacity ∨ s.len = 0 →
        resolveEntity { cfg with debug := true } s e
          = resolveEntity { cfg with debug := false } s e)
    ∧ (∀ d v : Nat, d < s.len ∨ v ≠ s.version ∨ s.len = 0 →
        resolveDirect { cfg with debug := true } s d v
          = resolveDirect { cfg with debug := false } s d v) :=
  ⟨fun e hk => resolveEntity_agree_debug_of_in_range h e hk,
   fun d v hk => resolveDirect_agree_debug_of_in_range h d v hk⟩

/-- For out-of-range forged keys the ONLY difference is `panic "debug_assert…"` (state
unchanged) versus `ok none`. -/
theorem C19_debug_only_difference (cfg : Cfg) (s : Storage α) (h0 : s.len ≠ 0) :
    (∀ e : Ent, e.slot ≥ s.capacity →
        resolveEntity { cfg with debug := true } s e
            = .panic "debug_assert: invalid entity handle" s
        ∧ resolveEntity { cfg with debug := false } s e = .ok none s)
    ∧ (∀ d : Nat, d ≥ s.len →
        resolveDirect { cfg with debug := true } s d s.version
            = .panic "debug_assert: invalid entity handle" s
        ∧ resolveDirect { cfg with debug := false } s d s.version = .ok none s) :=
  ⟨fun e hc => by constructor <;> simp [resolveEntity, h0, hc],
   fun d hd => by constructor <;> simp [resolveDirect, h0, hd]⟩

/-- By `C19_debug_irrelevant_for_valid_keys`, `destroy` by an in-range key is profile-independent
(the model's `forceDestroy` does not read `cfg.debug`: the `debug_assert!`s at the head of
`force_destroy` are not modelled). -/
theorem C19_debug_destroy {cfg : Cfg} {s : Storage α} (h : Inv cfg s) :
    (∀ e : Ent, e.slot < s.capacity ∨ s.len = 0 →
        destroyEnt { cfg with debug := true } s e = destroyEnt { cfg with debug := false } s e)
    ∧ (∀ d v : Nat, d < s.len ∨ v ≠ s.version ∨ s.len = 0 →
        destroyDirect { cfg with debug := true } s d v
          = destroyDirect { cfg with debug := false } s d v)
    ∧ (∀ (b : Bool) (si d : Nat),
        forceDestroy { cfg with debug := b } s si d = forceDestroy cfg s si d) := by
  refine ⟨fun e hk => ?_, fun d v hk => ?_, fun _ _ _ => rfl⟩
  · rw [destroyEnt_eq, destroyEnt_eq, resolveEntity_agree_debug_of_in_range h e hk]
    rfl
  · rw [destroyDirect_eq, destroyDirect_eq, resolveDirect_agree_debug_of_in_range h d v hk]
    rfl

/-- Keys issued by the API never trip a debug assertion later: an `Entity` handle that was
ever stored keeps its slot index below the (never shrinking) capacity, in any configuration;
an `EntityDirect` handle `(d, version)` issued for an existing position is later either stale
or still below `len` (without `wrapping_version`; with it, see `Later` in StoragePaths.lean).
Hence both profiles answer identically for them at every later state. -/
theorem C19_issued_keys_never_trip_debug {cfg : Cfg} {s s' : Storage α} (h : Inv cfg s)
    (hr : SReach cfg s s') :
    (∀ e ∈ s.ents, e.slot < s'.capacity
        ∧ resolveEntity { cfg with debug := true } s' e
            = resolveEntity { cfg with debug := false } s' e)
    ∧ (cfg.wrapping = false → ∀ d, d < s.len →
        resolveDirect { cfg with debug := true } s' d s.version
          = resolveDirect { cfg with debug := false } s' d s.version) := by
  have h' := SReach.inv h hr
  refine ⟨fun e he => ?_, fun hw d hd => ?_⟩
  · obtain ⟨i, hi⟩ := List.getElem?_of_mem he
    have hlt := Nat.lt_of_lt_of_le (h.ents_slot_lt hi) (sreach_capacity_mono hr)
    exact ⟨hlt, resolveEntity_agree_debug_of_in_range h' e (.inl hlt)⟩
  · refine resolveDirect_agree_debug_of_in_range h' d _ ?_
    by_cases hv : s.version = s'.version
    · -- same version: nothing was removed, so the old handle array is a prefix of the new one
      have := ((sreach_later hw hr).same_prefix hv).length_le
      rw [h.entsLen, h'.entsLen] at this
      exact .inl (Nat.lt_of_lt_of_le hd this)
    · exact .inr (.inl hv)

/-- Whole histories.  Unless the debug build trips one of the model's `debug_assert!` /
`debug_checked_assume!` sites (or reaches `ub`), every operation has the same outcome and the
history the same result in the release build — equalities of model terms, no `WInv` needed.
From a `WInv` world and for well-scoped histories `ub` is impossible (`run_inv`), so "no
debug assertion trips" alone suffices, and then the release run does not reach `ub` either. -/
theorem C19_debug_irrelevant_run (cfg : Cfg) (w : World α) :
    (∀ op, (stepOp { cfg with debug := true } w op).excused isDebugMsg true = false →
        stepOp { cfg with debug := true } w op = stepOp { cfg with debug := false } w op)
    ∧ (∀ ops, Clean isDebugMsg true { cfg with debug := true } w ops →
        run { cfg with debug := true } w ops = run { cfg with debug := false } w ops)
    ∧ (∀ ops, WInv cfg w → CfgOk cfg → OpsOk cfg ops → OpsScoped w.sch ops →
        Clean isDebugMsg false { cfg with debug := true } w ops →
        run { cfg with debug := true } w ops = run { cfg with debug := false } w ops
        ∧ ∃ w', run { cfg with debug := false } w ops = some w'
            ∧ WInv { cfg with debug := false } w') := by
  refine ⟨fun op h => stepOp_agree (opsSim_debug cfg) w op h,
    fun ops h => run_agree (opsSim_debug cfg) ops w h, ?_⟩
  intro ops hw hc ho hs hcl
  have hwD : WInv { cfg with debug := true } w := hw.congr_cfg rfl rfl
  have hoD : OpsOk { cfg with debug := true } ops :=
    OpsOk.congr_cfg (cfg := cfg) (cfg' := { cfg with debug := true }) rfl ops ho
  obtain ⟨w', h1, h2, _⟩ := run_inv hwD ⟨hc.vmaxPos⟩ hoD hs
  have heq := run_agree (opsSim_debug cfg) ops w (Clean.of_run_some ops w w' h1 hcl)
  exact ⟨heq, w', heq ▸ h1, h2.congr_cfg rfl rfl⟩

/-- `from_any_unchecked`: the identity in release builds, the checked conversion in debug
builds; with a matching id the two agree. -/
theorem C19_from_any_unchecked {cfg : Cfg} (idA : Nat) (k : Key) :
    (cfg.debug = false → fromAnyUnchecked cfg idA k = some k)
    ∧ (cfg.debug = true → (fromAnyUnchecked cfg idA k = some k ↔ k.archId = idA))
    ∧ (k.archId = idA → fromAnyUnchecked { cfg with debug := true } idA k
        = fromAnyUnchecked { cfg with debug := false } idA k) := by
  refine ⟨fromAnyUnchecked_release idA k, fromAnyUnchecked_debug idA k, ?_⟩
  intro hid
  rw [fromAnyUnchecked_of_eq _ hid, fromAnyUnchecked_of_eq _ hid]

/-! ## `32_components` -/

/-- Remark-theorem: nothing in `Inv`, `stepOp_spec`, `run_inv` constrains the number of
columns `s.cols.length`, so the arity limit raised by "32_components" is invisible to every
property.  Formally: `force_create` preserves `Inv` for ANY number of columns and ANY row
(re-export of `forceCreate_ok` and `forceCreate_created`; the world-level theorems ask for `row.length` = number of
columns through `Op.Scoped`, for every such number). -/
theorem C19_arity_generic (cfg : Cfg) (s : Storage α) (row : List α) (h : Inv cfg s)
    (hlt : s.len < s.capacity) :
    ∃ e s', forceCreate cfg s row = .ok e s' ∧ Inv cfg s' ∧ s'.len = s.len + 1
      ∧ s'.cols = List.zipWith (fun c x => c ++ [x]) s.cols row
      ∧ (row.length = s.cols.length → s'.cols.length = s.cols.length) := by
  obtain ⟨e, s', h1⟩ := forceCreate_ok row h hlt
  have c := (forceCreate_created h h1).1
  exact ⟨e, s', h1, c.inv, c.len, c.cols, fun hr => by rw [c.cols_length, hr, Nat.min_self]⟩

namespace StorageEx

-- events: a create and a destroy with the feature on really write the logs …
example : ∃ s', pushWithin cfgEx holeEx [13, 23] = .ok (some ⟨1, 2⟩) s' ∧ s'.created = [⟨1, 2⟩] :=
  ⟨_, rfl, rfl⟩
-- … and erasing them gives the feature-off run
example : (pushWithin cfgEx holeEx [13, 23]).mapState eraseLogs
    = pushWithin (cfgOff cfgEx) (eraseLogs holeEx) [13, 23] :=
  (C19_events_only_adds_logs cfgEx holeEx).2.2.1 _
example : cfgEx.events = true ∧ (cfgOff cfgEx).events = false := ⟨rfl, rfl⟩
-- wrapping: `holeEx` (generations 1, 2; version 2; `vmax = 5`) satisfies the bounds
example : Inv cfgEx holeEx ∧ (⟨0, 1⟩ : Ent).ver < cfgEx.vmax ∧ holeEx.version < cfgEx.vmax :=
  ⟨holeEx_inv, by decide, by decide⟩
-- … while at `vmax` (`ovfEx`) the two configurations really differ
example : forceDestroy { cfgEx with wrapping := false } ovfEx 0 0
    = .panic "slot version overflow" ovfEx := rfl
example : ∃ row s', forceDestroy { cfgEx with wrapping := true } ovfEx 0 0 = .ok row s' :=
  ⟨_, _, rfl⟩
-- debug: an in-range stale key and an out-of-range forged key on `holeEx`
example : resolveEntity { cfgEx with debug := true } holeEx ⟨1, 1⟩
    = resolveEntity { cfgEx with debug := false } holeEx ⟨1, 1⟩ :=
  (C19_debug_irrelevant_for_valid_keys holeEx_inv).1 _ (.inl (by decide))
example : resolveEntity { cfgEx with debug := true } holeEx ⟨7, 1⟩
      = .panic "debug_assert: invalid entity handle" holeEx
    ∧ resolveEntity { cfgEx with debug := false } holeEx ⟨7, 1⟩ = .ok none holeEx :=
  (C19_debug_only_difference cfgEx holeEx (by decide)).1 _ (by decide)

-- wrapping at `vmax`: `ovfEx` satisfies `Inv` in a wrapping configuration, the removal succeeds
example : ∃ row s', forceDestroy cfgWrap ovfEx 0 0 = .ok row s' ∧ Inv cfgWrap s' := by
  obtain ⟨row, s', h1, h2, _⟩ :=
    (C19_wrapping_beyond_vmax_safe (α := Nat) (cfg := cfgWrap) rfl).1 ovfEx 0 0 5 ovfEx_inv_wrap rfl
  exact ⟨row, s', h1, h2⟩
-- issued keys: `holeEx` ⟶ `holeEx2` (a create and a removal later)
example : ∀ e ∈ holeEx.ents, e.slot < HistEx.holeEx2.capacity :=
  fun e he => ((C19_issued_keys_never_trip_debug holeEx_inv HistEx.holeEx_reach2).1 e he).1
-- any row length / column count
example : ∃ e s', forceCreate cfgEx holeEx [13, 23] = .ok e s' ∧ s'.cols.length = 2 := by
  obtain ⟨e, s', h1, _, _, _, h5⟩ := C19_arity_generic cfgEx holeEx [13, 23] holeEx_inv (by decide)
  exact ⟨e, s', h1, h5 rfl⟩

end StorageEx

namespace WorldEx
open StorageEx

-- the example history, run with and without the feature
example : (run cfgEx wEx histEx).map World.eraseLogs = run (cfgOff cfgEx) wEx.eraseLogs histEx :=
  (C19_events_only_adds_logs_run cfgEx wEx).2 histEx

-- `histEx` (forged, stale and foreign keys, panicking closure …) raises no overflow panic and
-- trips no debug assertion: it runs identically under all four wrapping × debug settings.
-- The run is evaluated once per configuration, by the kernel alone.
theorem histEx_clean_overflow :
    Clean isOverflowMsg false { cfgEx with wrapping := false } wEx histEx :=
  Clean.of_cleanB histEx wEx (by decide +kernel)
example : Clean isOverflowMsg false { cfgEx with wrapping := false } wEx histEx :=
  histEx_clean_overflow
example : run { cfgEx with wrapping := false } wEx histEx
    = run { cfgEx with wrapping := true } wEx histEx :=
  (C19_wrapping_only_at_vmax_run cfgEx wEx).2.1 histEx histEx_clean_overflow
example : run { cfgEx with debug := true } wEx histEx
    = run { cfgEx with debug := false } wEx histEx :=
  (C19_debug_irrelevant_run cfgEx wEx).2.1 histEx (Clean.of_cleanB histEx wEx (by decide +kernel))

example : ∃ w', run { cfgEx with debug := false } wEx histEx = some w' :=
  let ⟨_, w', h1, _⟩ := (C19_debug_irrelevant_run cfgEx wEx).2.2 histEx
    (wEx_winv cfgEx (by decide) cfgEx_ok) cfgEx_ok histEx_ok histEx_scoped
    (Clean.of_cleanB histEx wEx (by decide +kernel))
  ⟨w', h1⟩

-- … while the documented differences are real: on `w2` (live entities) a forged out-of-range
-- key panics in the debug build and is `None` in the release build (world unchanged in both)
example : stepOp { cfgEx with debug := true } w2
      (.destroy ⟨false, true, ⟨.ent, 0, mkKey 77 3 1⟩, none⟩)
    = .panic "debug_assert: invalid entity handle" w2 := rfl
example : stepOp { cfgEx with debug := false } w2
      (.destroy ⟨false, true, ⟨.ent, 0, mkKey 77 3 1⟩, none⟩) = .ok w2 := rfl

-- and at `vmax` (one slot, `vmax = 2`): the second removal releases generation 2; the checked
-- build panics (entity still there), the wrapping build removes it — the history is not `Clean`
def wOne : World Nat := ⟨[3], [HistEx.w0]⟩
def histWrap : List (Op Nat) :=
  [.createWithin 0 [7], .destroy ⟨true, false, ⟨.any, 0, mkKey 0 3 1⟩, none⟩,
   .createWithin 0 [8], .destroy ⟨true, false, ⟨.any, 0, mkKey 0 3 2⟩, none⟩]
example : cleanB isOverflowMsg false { HistEx.cfgW with wrapping := false } wOne histWrap = false := by
  decide +kernel
example : (run { HistEx.cfgW with wrapping := false } wOne histWrap).map
    (fun w => w.archs.map (·.len)) = some [1] := rfl
example : (run { HistEx.cfgW with wrapping := true } wOne histWrap).map
    (fun w => w.archs.map (·.len)) = some [0] := rfl
-- its first three operations are clean, and there the two builds agree
example : run { HistEx.cfgW with wrapping := false } wOne (histWrap.take 3)
    = run { HistEx.cfgW with wrapping := true } wOne (histWrap.take 3) :=
  (C19_wrapping_only_at_vmax_run HistEx.cfgW wOne).2.1 _ (Clean.of_cleanB _ wOne (by decide +kernel))

end WorldEx
end Gecs

section
open Gecs
#print axioms C19_events_only_adds_logs
#print axioms C19_events_lookups
#print axioms C19_events_only_adds_logs_run
#print axioms C19_wrapping_only_at_vmax
#print axioms C19_wrapping_only_at_vmax_run
#print axioms C19_wrapping_beyond_vmax_safe
#print axioms C19_wrapping_reuse_documented
#print axioms C19_inv_ignores_features
#print axioms C19_debug_irrelevant_for_valid_keys
#print axioms C19_debug_only_difference
#print axioms C19_debug_destroy
#print axioms C19_issued_keys_never_trip_debug
#print axioms C19_debug_irrelevant_run
#print axioms C19_from_any_unchecked
#print axioms C19_arity_generic
end
