/-
The accessor surface of `StorageN` TRANSLATED (Gen/Steps.lean: `accessors`): obligation lists for
Lemmas/GenAccess.lean (C01: the `destroy` / `resolve` / `to_direct` wrappers delegate to the trait
method of the same operation, `begin_borrow` and `get_view_mut` are built at the resolved index;
C02: views and slices show the entity's own row / the `len`-prefix of the accessor's own column;
C06: slice accessors present exactly `len` items; C11: which accessors go through the column's
`RefCell`, shared or mutable).
-/
import Gecs.Lemmas.GenAccess

-- OBLIGATIONS(C02): Gecs.gen_accessors_shapes Gecs.gen_access_view Gecs.gen_access_slices
-- OBLIGATIONS(C06): Gecs.gen_access_slices
-- OBLIGATIONS(C11): Gecs.gen_accessors_shapes
-- OBLIGATIONS(C01): Gecs.gen_accessors_shapes

namespace Gecs
#check @gen_access_view
end Gecs
