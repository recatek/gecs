/-
C11 — Runtime-borrowed access panics instead of aliasing, and never refuses wrongly.
Model: Gecs/Model/Borrow.lean (RefCell counters, guard trees with unwinding, compilation of
the API accesses to guard trees), tied to the real `borrow_slice(_mut)`,
`Borrow::component(_mut)`, `ecs_find_borrow!`, `ecs_iter_borrow!` and `clone` by the `nest`
operation of harness/rt.  For ALL access trees of any depth and width.
Trusted: that `std::cell::RefCell` is this reader/writer counter.
-/
import Gecs.Lemmas.Borrow

-- OBLIGATIONS: Gecs.Borrow.C11_no_alias Gecs.Borrow.C11_panics_iff_conflict Gecs.Borrow.C11_released
-- OBLIGATIONS: Gecs.Borrow.C11_clone Gecs.Borrow.C11_other_cell_ok Gecs.Borrow.C11_shared_shared_ok
-- OBLIGATIONS: Gecs.Borrow.C11_conflict_panics Gecs.Borrow.exec_released Gecs.Borrow.exec_panics_iff
-- OBLIGATIONS: Gecs.Borrow.later_access_not_refused Gecs.Borrow.ib_empty_acquires_nothing
-- OBLIGATIONS: Gecs.Borrow.bs_empty_archetype_still_borrows Gecs.Borrow.fb_two_guards_conflict

namespace Gecs.Borrow

/-- No aliasing grant: in every state reached during the execution of any access program no
cell has a writer together with readers. -/
theorem C11_no_alias (nodes : List Node) :
    ∀ s ∈ statesList [] [] (compileList nodes), ∀ c,
      ¬ ((s.get c).writer = true ∧ (s.get c).readers > 0) :=
  fun s hs => Reach.no_alias (execList_exclusive [] (compileList nodes) Abs_nil rfl s hs)

/-- The program panics iff some access is incompatible with a guard still held at that
point (same column of the same archetype, one of the two mutable). -/
theorem C11_panics_iff_conflict (nodes : List Node) :
    (run nodes).panic.isSome = true ↔ okList [] (compileList nodes) = false :=
  execList_panics_iff [] (compileList nodes) Abs_nil

/-- Every borrow ends when its guard or closure call ends, also by unwinding: after the
program, on both outcomes, every cell is unborrowed — a later access is never refused. -/
theorem C11_released (nodes : List Node) : (run nodes).cells.idle = true :=
  Cells.idle_of_get (nodupKeys_both.2 [] [] (compileList nodes) List.nodup_nil)
    (run_released nodes)

/-- `clone` panics iff a column is mutably borrowed, with `BorrowError`. -/
theorem C11_clone {cs : Cells} {held : Held} (tr : List String) (archCols : List (List CellId))
    (ha : Abs cs held) (he : exclusive held = true) :
    ((execList cs tr (compile (.cl archCols))).panic.isSome = true ↔
        held.any (fun g => g.2 && archCols.flatten.contains g.1) = true) ∧
    (∀ k, (execList cs tr (compile (.cl archCols))).panic = some k → k = .borrowError) := by
  rw [clone_panic_eq tr archCols ha]
  cases held.any (fun g => g.2 && archCols.flatten.contains g.1) <;> simp

/-- An access to a column on which nothing is held (a different column, or a different
archetype) is always granted. -/
theorem C11_other_cell_ok {cs : Cells} {held : Held} (tr : List String) (c : CellId) (m : Bool)
    (body : List Acc) (ha : Abs cs held) (he : exclusive held = true) (hfree : ∀ g ∈ held, g.1 ≠ c) :
    (tryBorrow cs c m).isSome = true ∧
    (execOne cs tr (.guard c m body)).panic = panicList ((c, m) :: held) body :=
  guard_granted tr body ha (compatible_of_free hfree)

/-- Shared with shared on the same column is always granted. -/
theorem C11_shared_shared_ok {cs : Cells} {held : Held} (tr : List String) (c : CellId)
    (body : List Acc) (ha : Abs cs held) (he : exclusive held = true)
    (hshared : ∀ g ∈ held, g.1 = c → g.2 = false) :
    (tryBorrow cs c false).isSome = true ∧
    (execOne cs tr (.guard c false body)).panic = panicList ((c, false) :: held) body :=
  guard_granted tr body ha (compatible_of_shared hshared)

/-- A would-be alias is refused, with the documented panic kind, and nothing changes. -/
theorem C11_conflict_panics {cs : Cells} {held : Held} (tr : List String) (c : CellId) (m : Bool)
    (body : List Acc) (ha : Abs cs held) (g : CellId × Bool) (hg : g ∈ held) (hgc : g.1 = c)
    (hm : (m || g.2) = true) :
    tryBorrow cs c m = none ∧
    execOne cs tr (.guard c m body) = ⟨cs, tr, some (if m then .borrowMutError else .borrowError)⟩ :=
  mut_conflicts tr c m body ha g hg hgc hm

end Gecs.Borrow

section
open Gecs
#print axioms Borrow.C11_no_alias
#print axioms Borrow.C11_panics_iff_conflict
#print axioms Borrow.C11_released
#print axioms Borrow.C11_clone
#print axioms Borrow.C11_other_cell_ok
#print axioms Borrow.C11_shared_shared_ok
#print axioms Borrow.C11_conflict_panics
end
