/-
The STATEMENTS of `StorageN::force_create`, `StorageN::force_destroy`, `StorageN::grow`
(src/archetype/storage.rs) and `Slot::assign` / `Slot::release` (src/archetype/slot.rs) are
TRANSLATED into Lean on every run, in source order (Gecs/Gen/Steps.lean, by tools/extract_steps.py);
Model/Steps.lean gives each statement its meaning; Lemmas/GenSteps.lean proves that running the
extracted lists is the hand-written `forceCreate` / `forceDestroy` / `grow`, panic states
included; Lemmas/GenStepsApi.lean lifts that to `push`, `push_within_capacity`, `destroy` (both
key kinds) and to histories (`SReachS.toSReach`).  Here: the consequences in the words of the
properties, and the obligation lists.  If a statement is added, removed, or moved across one it
depends on — a `next()` behind a mutation (F1), `slot.assign` before `free_head = slot.index()`,
`len` updated before the writes that use it, an event push after the swap-remove — the extracted
list changes and these theorems stop checking.
-/
import Gecs.Lemmas.GenStepsApi
import Gecs.Lemmas.WorldHistory

-- OBLIGATIONS(C10): Gecs.gen_steps_force_destroy Gecs.gen_steps_force_create Gecs.gen_steps_grow Gecs.gen_steps_panic_atomic Gecs.GenSteps_C10_panic_leaves_storage_untouched
-- OBLIGATIONS(C01): Gecs.gen_steps_force_destroy Gecs.gen_steps_force_create Gecs.gen_steps_history Gecs.GenSteps_C01_dead_stays_dead
-- OBLIGATIONS(C08): Gecs.gen_steps_force_create Gecs.gen_steps_force_destroy Gecs.gen_steps_history Gecs.GenSteps_C01_dead_stays_dead
-- OBLIGATIONS(C09): Gecs.gen_steps_force_destroy Gecs.gen_steps_destroy_direct
-- OBLIGATIONS(C12): Gecs.gen_steps_grow Gecs.gen_steps_push Gecs.gen_steps_push_within Gecs.GenSteps_C12_len_capacity
-- OBLIGATIONS(C17): Gecs.gen_steps_force_create Gecs.gen_steps_force_destroy
-- OBLIGATIONS(C03): Gecs.gen_steps_not_ub
-- OBLIGATIONS(C02): Gecs.gen_steps_force_destroy Gecs.gen_steps_force_create
-- OBLIGATIONS(C04): Gecs.gen_steps_force_destroy Gecs.gen_steps_force_create

namespace Gecs

variable {α : Type}

theorem gen_steps_history {cfg : Cfg} {s s' : Storage α} (r : SReachS cfg s s') : SReach cfg s s' :=
  r.toSReach

/-- C10, for the statements of the current source: a panic out of `destroy` (slot-map or
direct key) leaves the storage EXACTLY as it was before the call — the two `next()`
computations are the only panicking statements and precede every mutation.  (A panic out of
`create` is carried to the model by the third conjunct of `gen_steps_panic_atomic`.) -/
theorem GenSteps_C10_panic_leaves_storage_untouched (cfg : Cfg) (g : Nat → Nat) (s s' : Storage α)
    (h : Inv cfg s) (m : String) :
    (∀ e, destroyEntS cfg s e = .panic m s' → s' = s)
    ∧ (∀ d v, destroyDirectS cfg s d v = .panic m s' → s' = s) := by
  obtain ⟨h1, h2, _⟩ := gen_steps_panic_atomic cfg g s s' h m
  exact ⟨fun e hp => destroyEnt_panic_state h (h1 e hp),
    fun d v hp => destroyDirect_panic_state h (h2 d v hp)⟩

/-- C01 / C08 along the extracted statements: a handle that has left the dense array never
comes back, whatever extracted-statement steps follow (default configuration). -/
theorem GenSteps_C01_dead_stays_dead {cfg : Cfg} (hw : cfg.wrapping = false) {s₀ s₁ s₂ : Storage α}
    (h : Inv cfg s₀) (r₁ : SReachS cfg s₀ s₁) (r₂ : SReachS cfg s₁ s₂) {e : Ent}
    (he₀ : e ∈ s₀.ents) (he₁ : e ∉ s₁.ents) : e ∉ s₂.ents :=
  sreach_dead_stays_dead hw h r₁.toSReach r₂.toSReach he₀ he₁

/-- C12 along the extracted statements: `len ≤ capacity ≤ MAX`, capacity never decreases. -/
theorem GenSteps_C12_len_capacity {cfg : Cfg} {s s' : Storage α} (h : Inv cfg s) (r : SReachS cfg s s') :
    s'.len ≤ s'.capacity ∧ s'.capacity ≤ cfg.maxCap ∧ s.capacity ≤ s'.capacity :=
  have h' := SReach.inv h r.toSReach
  ⟨h'.lenCap, h'.capMax, sreach_capacity_mono r.toSReach⟩

end Gecs
