/-
C07 — `ecs_iter_destroy!` visits each entity once and destroys exactly the flagged ones.
Model: `destroyLoop` / `iterDestroyQuery` in Gecs/Model/Query.lean — the
`for idx in (0..len).rev()` loop emitted by `generate_query_iter_destroy`
(macros/src/generate/query.rs): `len` read before the loop, the archetype version re-read
and the slices re-fetched at every step (repaired order, defect F2), `slices.entity[idx]`
destroyed through `archetype.destroy(entity)` = `destroyEnt`, i.e. swap-remove.
Tie: the `iterd` lines of harness/rt (decision lists incl. all patterns the property names;
direct handles received by the closure are probed right after the loop).
The general statement is proved: a generation-overflow panic ends the loop like a break (and
the entity flagged at that call is not removed).
Hypotheses: the per-archetype theorems take `Inv cfg s` and, `C07_visited_at_most_once` excepted,
`ColsExist s ps` (the columns the parameters are bound to exist: guaranteed by the macro
expansion; without it the first step panics, `Loops.destroyLoop_bad_col`);
`C07_never_ub_invariant_kept` takes their world-level forms `WInv` and `QueryOk`;
`C07_stop_is_immediate_and_global` takes none.
-/
import Gecs.Lemmas.Loops

-- OBLIGATIONS: Gecs.Loops.destroyLoop_spec Gecs.C07_visits_reverse_dense_order Gecs.C07_visited_at_most_once
-- OBLIGATIONS: Gecs.C07_direct_handle_designates_visited Gecs.C07_stop_is_immediate_and_global
-- OBLIGATIONS: Gecs.C07_never_ub_invariant_kept Gecs.Loops.destroyLoop_stale_version_witness
-- OBLIGATIONS: Gecs.Loops.destroyLoop_spec_wrapping Gecs.Loops.destroyLoop_recR_sim Gecs.Loops.destroyLoop_args_of_trace

namespace Gecs
open Gecs.Loops
variable {α σ : Type}

/-
`Gecs.Loops.destroyLoop_spec` (Gecs/Lemmas/Loops.lean) is the headline, and its docstring says what
it claims, clause by clause.  Nothing is stated about the `&mut`-bound columns of a visited
survivor, written or not.  The theorems below are its readable corollaries.
-/

/-- The entity arguments are the handles of `D₀` in reverse dense order, up to the stop. -/
theorem C07_visits_reverse_dense_order {cfg : Cfg} {s : Storage α} (h : Inv cfg s) (idA : Nat)
    {ps : List Param} (hps : ColsExist s ps) (f : Closure σ α Step4) (st : σ)
    {i : Nat} {p : Param} (hi : ps[i]? = some p) (hp : p = .ent ∨ p = .entAny) :
    ∃ log, (destroyLoop cfg idA ps (recR f) (List.range s.len).reverse (st, []) s).log? = some log
      ∧ log.map (fun c => c.args[i]?)
        = (s.ents.reverse.take log.length).map (fun e => some (Arg.ent (mkKey e.slot idA e.ver))) := by
  obtain ⟨kind, t', log, s', removed, hrun, _, hlen, _, hsteps, _⟩ :=
    Loops.destroyLoop_spec h idA hps f st
  refine ⟨log, by rw [hrun, OKind.out_log?],
    map_eq_map_of_getElem? (by simp [h.entsLen, hlen]) fun j c e hj he => ?_⟩
  have hjn : j < log.length := (List.getElem?_eq_some_iff.mp hj).1
  obtain ⟨sj, _, hs⟩ := hsteps j c hj
  obtain ⟨a, ha, hba⟩ := bindArgs_getElem? hs.args0 hi
  obtain ⟨e', he', rfl⟩ := bindArg_ent_eq hp hba
  rw [List.getElem?_take, if_pos hjn, List.getElem?_reverse (by rw [h.entsLen]; omega),
    h.entsLen, he'] at he
  cases he
  exact ha

theorem C07_visited_at_most_once {cfg : Cfg} {s : Storage α} (h : Inv cfg s) (k : Nat) :
    (s.ents.reverse.take k).Nodup :=
  List.Nodup.sublist (List.take_sublist k _)
    ((List.reverse_perm s.ents).nodup_iff.mpr (ents_nodup h))

/-- Any direct handle the loop hands to the closure is accepted in the storage the closure
runs in and designates the entity being visited. -/
theorem C07_direct_handle_designates_visited {cfg : Cfg} {s : Storage α} (h : Inv cfg s) (idA : Nat)
    {ps : List Param} (hps : ColsExist s ps) (f : Closure σ α Step4) (st : σ) :
    ∀ x ∈ destroyTrace cfg idA ps f (List.range s.len).reverse st s,
      Inv cfg x.2 ∧ ∃ visited : Ent, s.ents[x.1]? = some visited ∧ x.2.ents[x.1]? = some visited
        ∧ resolveDirect cfg x.2 x.1 x.2.version = .ok (some (visited.slot, x.1)) x.2 :=
  minted_direct_designates h idA hps f st

/-- `Break` / `BreakDestroy` (or a panic) ends the whole query, across archetypes. -/
theorem C07_stop_is_immediate_and_global (cfg : Cfg) (f : Closure σ α Step4) (q : Query) (st : σ)
    (w : World α) (log : List (Call α Step4))
    (hlog : (iterDestroyQuery cfg (recR f) q (st, []) w).log? = some log)
    (k : Nat) (c : Call α Step4) (hk : log[k]? = some c)
    (hc : c.res = some .brk ∨ c.res = some .brkDestroy ∨ c.res = none) :
    log.length = k + 1 := by
  obtain ⟨new, rfl, hcp⟩ := iterDestroyQuery_shape cfg f q (st, []) w log hlog
  apply hcp.last_of_not hk
  rcases hc with hc | hc | hc <;> simp [Call.contLike, hc]

theorem C07_never_ub_invariant_kept {cfg : Cfg} (f : Closure σ α Step4)
    (q : Query) (st : σ) (L : List (Call α Step4)) (w : World α) (hw : WInv cfg w) (hq : QueryOk w q) :
    (∃ t' w', iterDestroyQuery cfg (recR f) q (st, L) w = .ok t' w' ∧ WInv cfg w')
    ∨ (∃ m t' w', iterDestroyQuery cfg (recR f) q (st, L) w = .panic m t' w' ∧ WInv cfg w'
        ∧ (m = "closure" ∨ m = "slot version overflow" ∨ m = "arch version overflow")) := by
  induction q generalizing st L w with
  | nil => exact .inl ⟨_, _, rfl, hw⟩
  | cons qa rest ih =>
    obtain ⟨⟨s, ha, hcols⟩, hrest⟩ := List.forall_mem_cons.mp hq
    have hinv : Inv cfg s := hw.inv s (List.mem_of_getElem? ha)
    rw [iterDestroyQuery, ha]
    simp only
    obtain ⟨kind, t', new, s', removed, hrun, hF⟩ :=
      destroyLoop_main (w.ids.getD qa.a ID_RANGE) qa.params f s _ (st, L) s s.len rfl
        (DInv.init hinv hcols)
    rw [hrun]
    have hw' : WInv cfg (w.setArch qa.a s') := hw.setArch qa.a hF.final.inv
    cases kind with
    | done =>
      simp only [OKind.out]
      exact ih t' (L ++ new) _ hw' (QueryOk.setArch hrest ha hF.rel.ncols)
    | stop => exact .inl ⟨_, _, rfl, hw'⟩
    | panic m =>
      refine .inr ⟨m, _, _, rfl, hw', ?_⟩
      obtain ⟨_, c, _, _, hl⟩ := hF.notDone (by simp)
      rcases hl with ⟨hm, _⟩ | ⟨hm, _⟩
      · exact .inl hm
      · exact .inr hm

namespace Loops

/-- C07 for `recArgs f`: the entity parameter at position `i` received, call after call, the
keys of `D₀.reverse`, as many as there were calls (all of them if the loop ran to the end). -/
theorem destroyLoop_entity_args_recArgs {cfg : Cfg} {s : Storage α} (h : Inv cfg s) (idA : Nat)
    {ps : List Param} (hps : ColsExist s ps) (f : Closure σ α Step4) (st : σ)
    {i : Nat} {p : Param} (hi : ps[i]? = some p) (hp : p = .ent ∨ p = .entAny) :
    ∃ calls, (destroyLoop cfg idA ps (recArgs f) (List.range s.len).reverse (st, []) s).log?
        = some calls
      ∧ calls.map (fun args => args[i]?)
        = (s.ents.reverse.take calls.length).map
            (fun e => some (Arg.ent (mkKey e.slot idA e.ver)))
      ∧ (∀ t' s', destroyLoop cfg idA ps (recArgs f) (List.range s.len).reverse (st, []) s
            = .done t' s' → calls.length = s.len) := by
  obtain ⟨log, hlog, hmap⟩ := C07_visits_reverse_dense_order h idA hps f st hi hp
  have hsim := destroyLoop_recR_recArgs cfg idA ps f (List.range s.len).reverse st [] s
  rw [List.map_nil] at hsim
  refine ⟨log.map Call.args, ?_, by simpa [Function.comp_def] using hmap, ?_⟩
  · rw [← hsim, LoopOut.log?_forgetRes, hlog]; rfl
  · intro t' s' hd
    rw [← hsim] at hd
    obtain ⟨kind, t'', log', s'', removed, hrun, _, _, _, _, hdone, _⟩ :=
      destroyLoop_spec h idA hps f st
    rw [hrun, OKind.out_log?] at hlog
    rw [hrun] at hd
    cases Option.some.inj hlog
    cases kind with
    | done => simpa using (hdone rfl).1
    | stop => cases hd
    | panic m => cases hd

namespace LoopsEx
open StorageEx

/-- `C07_stop_is_immediate_and_global` on the run of `fDestroyEx` over `queryEx` (Lemmas/Loops.lean):
the `BreakDestroy` at call 2 is the last call. -/
example : ∀ log, (iterDestroyQuery cfgEx (recR fDestroyEx) queryEx (0, []) worldEx).log? = some log →
    log.length = 2 + 1 := fun log hlog =>
  C07_stop_is_immediate_and_global cfgEx fDestroyEx queryEx 0 worldEx log hlog 2
    ⟨[.ent (mkKey 0 7 1), .dir (mkKey 0 7 2), .comp true 10], some .brkDestroy⟩
    (by rw [← Option.some.inj hlog]; rfl) (.inr (.inl rfl))

end LoopsEx
end Loops
end Gecs

section
open Gecs
#print axioms C07_visits_reverse_dense_order
#print axioms C07_visited_at_most_once
#print axioms C07_stop_is_immediate_and_global
#print axioms C07_never_ub_invariant_kept
#print axioms Loops.destroyLoop_entity_args_recArgs
end
