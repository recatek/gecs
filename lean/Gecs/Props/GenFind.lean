/-
The expansion of `ecs_find!` / `ecs_find_borrow!` TRANSLATED from macros/src/generate/query.rs
(Gen/Steps.lean: `findT` — the statements of the two arms pushed per matched archetype, their
tail expression, the `_ => None` default and the `.expect("invalid entity type")` scrutinee):
obligation list for Lemmas/GenFind.lean.  `findQuery` is the model of the find path in C01, C02,
C03, C09 and of a closure that panics inside it in C10; by `gen_find_query` it is the extracted
skeleton, run.
-/
import Gecs.Lemmas.GenFind

-- OBLIGATIONS(C01): Gecs.gen_find_query
-- OBLIGATIONS(C02): Gecs.gen_find_query
-- OBLIGATIONS(C03): Gecs.gen_find_query
-- OBLIGATIONS(C09): Gecs.gen_find_query
-- OBLIGATIONS(C10): Gecs.gen_find_query

namespace Gecs
#check @gen_find_query
end Gecs
