/-
C09 — A direct handle never designates another entity and dies with any removal (per storage:
`C09_dies`, any removal on the path; `C09_dies_world` covers the removal of an entity alive at `w₁`).
Models: Gecs/Model/Storage.lean (`resolveDirect` = storage.rs `StorageN::resolve_direct`, the
validating one: archetype version first, then the dense index; `toDirectEnt`/`toDirectDirect`
= `StorageCanResolve<Entity<A>>::resolve_direct` / `<EntityDirect<A>>::resolve_direct`, the
latter in its repaired, validating form; `forceDestroy` = `force_destroy`, which advances the
archetype version on every removal), Gecs/Model/World.lean (`mkKey` = the `(dense << 8) | id`
packing of entity.rs, `World.contains/toDirect/fetch` with `direct := true` = the generated
world.rs dispatch for `EntityDirect<A>` / `EntityDirectAny`) and Gecs/Model/History.lean
(`run`).  Tied to the Rust code by the `todirect`/`probe`/`destroy` lines of harness/rt (a `probe`
line is what `contains`, `resolve`, `to_direct`, `view`, `borrow` answer for one handle).

A direct handle for the entity `e` of archetype `a`, obtained at world `w₁`, is any key `k`
with `k.index = d` and `k.ver = s₁.version`, where `s₁` is `a`'s storage at `w₁` and
`s₁.ents[d]? = some e` (that is what `to_direct` mints, `C09_issue_world`; the id byte is
irrelevant for a typed `EntityDirect<A>`).  It is used at `w₂ = run cfg w₁ ops₂` for an
arbitrary history `ops₂` (any length, forged handles, arbitrary closures, continuing after
panics); `w₁` is any world satisfying `WInv`, in particular any world reached by a history
(`run_inv`).  NON-wrapping generations (`cfg.wrapping = false`); with `wrapping_version` the
archetype version returns to 1 after `u32::MAX` removals (documented limitation).
-/
import Gecs.Lemmas.WorldHistory

-- OBLIGATIONS: Gecs.C09_issue_world Gecs.C09_safe_world Gecs.C09_dies_world
-- OBLIGATIONS: Gecs.sreach_lost_version_lt Gecs.C09_lives_world Gecs.C09_lives_without_removal
-- OBLIGATIONS: Gecs.C09_to_direct_validates Gecs.C09_minted_by_to_direct_is_accepted

namespace Gecs
variable {α : Type}

/-- Issue: for a live entity `e` at dense index `d` of archetype `a` (declared id `id`),
`to_direct` of its handle mints `(d, id, archetype version)`, and that direct handle is
accepted in the same world, at `d`. -/
theorem C09_issue_world {cfg : Cfg} {w : World α} (hw : WInv cfg w) {a d id : Nat}
    {s : Storage α} {e : Ent} (g : w.archs[a]? = some s) (hid : w.ids[a]? = some id)
    (he : s.ents[d]? = some e) :
    w.toDirect cfg (.arch a (mkKey e.slot id e.ver)) false = .ok (some (mkKey d id s.version)) w
    ∧ w.contains cfg (.arch a (mkKey d id s.version)) true = .ok (some d) w := by
  have hlt := hw.id_lt hid
  exact ⟨toDirect_own_handle hw g hid he,
    (contains_dir_iff hw a _ d).mpr
      ⟨s, g, (Key.index_mkKey _ hlt).symm, rfl, (hw.get g).ents_lt he⟩⟩

/-- Safety: whenever the direct handle obtained for `e` at `w₁` is accepted at `w₂` — by
`contains`/`resolve` or by `view`/`borrow`/`find` — it designates `e` itself, still at dense
index `d`: never another entity. -/
theorem C09_safe_world {cfg : Cfg} (hw : cfg.wrapping = false) {w₁ w₂ : World α}
    {ops₂ : List (Op α)} (hw₁ : WInv cfg w₁) (hc : CfgOk cfg) (ho : OpsOk cfg ops₂)
    (hs : OpsScoped w₁.sch ops₂) (h₂ : run cfg w₁ ops₂ = some w₂)
    {a d : Nat} {s₁ s₂ : Storage α} (g₁ : w₁.archs[a]? = some s₁) (g₂ : w₂.archs[a]? = some s₂)
    {e : Ent} (he : s₁.ents[d]? = some e) {k : Key} (hkd : k.index = d)
    (hkv : k.ver = s₁.version) :
    (∀ d', w₂.contains cfg (.arch a k) true = .ok (some d') w₂ →
        d' = d ∧ s₂.ents[d]? = some e)
    ∧ (∀ d' e' row w', w₂.fetch cfg (.arch a k) true = .ok (some (d', e', row)) w' →
        d' = d ∧ e' = e ∧ s₂.ents[d]? = some e) := by
  have hw₂ := (run_wrel hw₁ ho hs h₂).winv
  -- an accepted key carries `s₂`'s version, so the version is still `s₁`'s
  have core : k.ver = s₂.version → s₂.ents[d]? = some e := fun hv =>
    (sreach_later hw (run_reach hw₁ ho hs h₂ g₁ g₂)).same_at (hkv.symm.trans hv) he
  constructor
  · intro d' h
    obtain ⟨s, g, h1, h2, _⟩ := (contains_dir_iff hw₂ a k d').mp h
    rw [g₂] at g; cases g
    exact ⟨h1.trans hkd, core h2⟩
  · intro d' e' row w' h
    obtain ⟨_, h8, s, g, h9, h4, _⟩ := (fetch_dir_iff hw₂ a k d' e' row w').mp h
    rw [g₂] at g; cases g
    rw [h8.trans hkd] at h4
    exact ⟨h8.trans hkd, Option.some.inj (h4.symm.trans (core h9)), core h9⟩

/-- Death: if some entity of archetype `a` that was alive at `w₁` is no longer alive at `w₂`
— ANY removal from its archetype after the handle was obtained, of `e` itself or of any other
entity, by any path — then every direct handle carrying `w₁`'s archetype version is answered
`None` at `w₂` by `contains`/`resolve`, `to_direct` and `view`/`borrow`/`find` (no panic, no
`ub`), even if `e` is still alive and still at index `d`. -/
theorem C09_dies_world {cfg : Cfg} (hw : cfg.wrapping = false) {w₁ w₂ : World α}
    {ops₂ : List (Op α)} (hw₁ : WInv cfg w₁) (hc : CfgOk cfg) (ho : OpsOk cfg ops₂)
    (hs : OpsScoped w₁.sch ops₂) (h₂ : run cfg w₁ ops₂ = some w₂)
    {a : Nat} {s₁ s₂ : Storage α} (g₁ : w₁.archs[a]? = some s₁) (g₂ : w₂.archs[a]? = some s₂)
    (hlost : ∃ t ∈ s₁.ents, t ∉ s₂.ents) {k : Key} (hkv : k.ver = s₁.version) :
    s₁.version < s₂.version
    ∧ w₂.contains cfg (.arch a k) true = .ok none w₂
    ∧ w₂.toDirect cfg (.arch a k) true = .ok none w₂
    ∧ w₂.fetch cfg (.arch a k) true = .ok none w₂ := by
  have hr := run_reach hw₁ ho hs h₂ g₁ g₂
  have hlt := sreach_lost_version_lt hw (hw₁.get g₁) hr hlost
  exact ⟨hlt, direct_stale_none g₂ (by omega)⟩

/-- Life: if archetype `a`'s version at `w₂` is what it was at `w₁` (no removal from `a` in
between took effect), the handle is still accepted at `d` and designates `e`; creations,
growth of the archetype and anything that happened in OTHER archetypes do not matter. -/
theorem C09_lives_world {cfg : Cfg} (hw : cfg.wrapping = false) {w₁ w₂ : World α}
    {ops₂ : List (Op α)} (hw₁ : WInv cfg w₁) (hc : CfgOk cfg) (ho : OpsOk cfg ops₂)
    (hs : OpsScoped w₁.sch ops₂) (h₂ : run cfg w₁ ops₂ = some w₂)
    {a d : Nat} {s₁ s₂ : Storage α} (g₁ : w₁.archs[a]? = some s₁) (g₂ : w₂.archs[a]? = some s₂)
    {e : Ent} (he : s₁.ents[d]? = some e) {k : Key} (hkd : k.index = d)
    (hkv : k.ver = s₁.version) (hv : s₂.version = s₁.version) :
    s₂.ents[d]? = some e
    ∧ w₂.contains cfg (.arch a k) true = .ok (some d) w₂
    ∧ w₂.toDirect cfg (.arch a k) true = .ok (some k) w₂
    ∧ ∃ row, readRow s₂ d = some row
        ∧ w₂.fetch cfg (.arch a k) true = .ok (some (d, e, row)) w₂ := by
  have r := run_wrel hw₁ ho hs h₂
  have hd₂ := (sreach_later hw (r.reach a s₁ s₂ g₁ g₂)).same_at hv.symm he
  have hlt := (r.winv.get g₂).ents_lt hd₂
  have hkv₂ : k.ver = s₂.version := by rw [hkv, hv]
  subst hkd
  refine ⟨hd₂, (contains_dir_iff r.winv a k _).mpr ⟨s₂, g₂, rfl, hkv₂, hlt⟩,
    toDirect_dir_of_valid r.winv g₂ hkv₂ hlt, fetch_dir_of_valid r.winv g₂ hkv₂ hd₂⟩

/-- Along a history `ops₂` made of creations in any archetype (growth
included), component writes, `clear_events`, clones, and `destroy` calls routed to OTHER
archetypes (`Op.NoRemovalIn cfg w₁.ids a`; a `destroy` routed to `a` is excluded even when it would be
refused), the handle stays accepted and keeps designating `e`. -/
theorem C09_lives_without_removal {cfg : Cfg} (hw : cfg.wrapping = false) {w₁ w₂ : World α}
    {ops₂ : List (Op α)} (hw₁ : WInv cfg w₁) (hc : CfgOk cfg) (ho : OpsOk cfg ops₂)
    (hs : OpsScoped w₁.sch ops₂) (h₂ : run cfg w₁ ops₂ = some w₂)
    {a d : Nat} {s₁ s₂ : Storage α} (g₁ : w₁.archs[a]? = some s₁) (g₂ : w₂.archs[a]? = some s₂)
    (hnr : ∀ op ∈ ops₂, op.NoRemovalIn cfg w₁.ids a)
    {e : Ent} (he : s₁.ents[d]? = some e) {k : Key} (hkd : k.index = d)
    (hkv : k.ver = s₁.version) :
    s₂.version = s₁.version ∧ s₂.ents[d]? = some e
    ∧ w₂.contains cfg (.arch a k) true = .ok (some d) w₂ := by
  have hv := run_keeps_version a ops₂ w₁ w₂ hw₁ ho hs hnr h₂ g₁ g₂
  obtain ⟨h1, h2, _⟩ := C09_lives_world hw hw₁ hc ho hs h₂ g₁ g₂ he hkd hkv hv
  exact ⟨hv, h1, h2⟩

/-- `to_direct` applied to a DIRECT key validates it: it returns only its own argument, and
it returns it exactly when the key is currently accepted by `contains`; a stale direct key
(version mismatch) gets `None` — it is not "re-issued".  (The unrepaired code returned the
argument unconditionally: defect F4.) -/
theorem C09_to_direct_validates {cfg : Cfg} {w : World α} (hw : WInv cfg w) (a : Nat) (k : Key) :
    (∀ k' w', w.toDirect cfg (.arch a k) true = .ok (some k') w' → w' = w ∧ k' = k)
    ∧ (w.toDirect cfg (.arch a k) true = .ok (some k) w
        ↔ w.contains cfg (.arch a k) true = .ok (some k.index) w)
    ∧ (∀ s, w.archs[a]? = some s → k.ver ≠ s.version →
        w.toDirect cfg (.arch a k) true = .ok none w) := by
  refine ⟨fun k' w' h => ?_, ?_, fun s g hne => (direct_stale_none g hne).2.1⟩
  · obtain ⟨h1, h2, _⟩ := (toDirect_dir_iff hw a k k' w').mp h
    exact ⟨h1, h2⟩
  · rw [toDirect_dir_iff hw, contains_dir_iff hw]
    constructor
    · rintro ⟨_, _, s, g, hv, hd⟩
      exact ⟨s, g, rfl, hv, hd⟩
    · rintro ⟨s, g, _, hv, hd⟩
      exact ⟨rfl, rfl, s, g, hv, hd⟩

/-- What `to_direct` returns from an `Entity` key is accepted by `contains` as a direct key
in the same world, at the dense index at which the `Entity` key itself is accepted. -/
theorem C09_minted_by_to_direct_is_accepted {cfg : Cfg} {w w' : World α} (hw : WInv cfg w)
    {a : Nat} {k k' : Key} (h : w.toDirect cfg (.arch a k) false = .ok (some k') w') :
    ∃ d, w.contains cfg (.arch a k) false = .ok (some d) w
      ∧ w.contains cfg (.arch a k') true = .ok (some d) w := by
  obtain ⟨_, s, d, g, hd, rfl⟩ := (toDirect_ent_iff hw a k k' w').mp h
  obtain ⟨id, hid⟩ := getElem?_some_of_length_eq hw.idsLen g
  rw [getD_of_getElem? hid]
  exact ⟨d, (contains_ent_iff hw a k d).mpr ⟨s, g, hd⟩, (C09_issue_world hw g hid hd).2⟩

section Examples
open WorldEx StorageEx

-- `w2`: archetype 0 (id 3, version 2) holds (0,1) at dense 0 and (2,1) at dense 1.
example : w2.toDirect cfgEx (.arch 0 (mkKey 2 3 1)) false = .ok (some (mkKey 1 3 2)) w2
    ∧ w2.contains cfgEx (.arch 0 (mkKey 1 3 2)) true = .ok (some 1) w2 :=
  C09_issue_world w2_winv (a := 0) (d := 1) (id := 3) (s := holeEx) (e := ⟨2, 1⟩) rfl rfl rfl

/-- A history without removal in archetype 0: a creation there, a write, a removal in
archetype 1 and a `clear_events`. -/
def c09keep : List (Op Nat) :=
  [.create 0 [13, 23] (codeGrowth cfgEx),
   .write ⟨true, false, ⟨.any, 0, mkKey 0 3 1⟩, none⟩ 0 99,
   .destroy ⟨true, false, ⟨.any, 1, mkKey 0 7 1⟩, none⟩,
   .clearEvents none]

/-- A history that removes the OTHER entity (0,1) of archetype 0. -/
def c09kill : List (Op Nat) :=
  [.create 0 [13, 23] (codeGrowth cfgEx),
   .destroy ⟨true, true, ⟨.ent, 0, mkKey 0 3 1⟩, none⟩]

theorem c09keep_ok : OpsOk cfgEx c09keep := ⟨fun c hc => codeGrowth_ok cfgEx c hc, trivial⟩
theorem c09kill_ok : OpsOk cfgEx c09kill := ⟨fun c hc => codeGrowth_ok cfgEx c hc, trivial⟩

theorem c09keep_scoped : OpsScoped w2.sch c09keep := by
  intro op hop
  simp only [c09keep, List.mem_cons, List.not_mem_nil, or_false] at hop
  rcases hop with rfl | rfl | rfl | rfl
  · exact (rfl : w2.sch[0]? = some 2)
  · exact KeyUse.scoped_of_untyped rfl
  · exact KeyUse.scoped_of_untyped rfl
  · trivial

theorem c09kill_scoped : OpsScoped w2.sch c09kill := by
  intro op hop
  simp only [c09kill, List.mem_cons, List.not_mem_nil, or_false] at hop
  rcases hop with rfl | rfl
  · exact (rfl : w2.sch[0]? = some 2)
  · exact fun _ => (by decide : 0 < 2)

theorem c09keep_noRemoval : ∀ op ∈ c09keep, op.NoRemovalIn cfgEx w2.ids 0 := by
  intro op hop
  simp only [c09keep, List.mem_cons, List.not_mem_nil, or_false] at hop
  rcases hop with rfl | rfl | rfl | rfl
  · trivial
  · trivial
  · intro k hk
    have : KeyUse.route cfgEx w2.ids ⟨true, false, ⟨.any, 1, mkKey 0 7 1⟩, none⟩
        = .arch 1 (mkKey 0 7 1) := rfl
    rw [this] at hk; cases hk
  · trivial

-- both histories run, archetype 1 really loses an entity in the first one, and in the second
-- one (0,1) is gone while (2,1) is still at dense index 1
example : ∃ w s₀ s₁, run cfgEx w2 c09keep = some w ∧ w.archs[0]? = some s₀
    ∧ w.archs[1]? = some s₁ ∧ s₀.version = 2 ∧ s₀.capacity = 3 ∧ s₀.len = 3 ∧ s₁.len = 1 :=
  ⟨_, _, _, rfl, rfl, rfl, rfl, rfl, rfl, rfl⟩
example : ∃ w s₀, run cfgEx w2 c09kill = some w ∧ w.archs[0]? = some s₀
    ∧ (⟨0, 1⟩ : Ent) ∈ holeEx.ents ∧ (⟨0, 1⟩ : Ent) ∉ s₀.ents ∧ s₀.ents[1]? = some ⟨2, 1⟩ :=
  ⟨_, _, rfl, rfl, by decide, by decide, rfl⟩

-- the direct handle (1, 2) of entity (2,1) survives the first history …
example (w : World Nat) (s : Storage Nat) (h : run cfgEx w2 c09keep = some w)
    (g : w.archs[0]? = some s) :
    w.contains cfgEx (.arch 0 (mkKey 1 3 2)) true = .ok (some 1) w :=
  (C09_lives_without_removal rfl w2_winv cfgEx_ok c09keep_ok c09keep_scoped h (a := 0)
    (s₁ := holeEx) rfl g c09keep_noRemoval (d := 1) (e := ⟨2, 1⟩) rfl rfl rfl).2.2

-- … and dies in the second
example (w : World Nat) (s : Storage Nat) (h : run cfgEx w2 c09kill = some w)
    (g : w.archs[0]? = some s) (hl : (⟨0, 1⟩ : Ent) ∉ s.ents) :
    w.contains cfgEx (.arch 0 (mkKey 1 3 2)) true = .ok none w :=
  (C09_dies_world rfl w2_winv cfgEx_ok c09kill_ok c09kill_scoped h (a := 0) (s₁ := holeEx) rfl g
    ⟨⟨0, 1⟩, by decide, hl⟩ (k := mkKey 1 3 2) rfl).2.1

-- a stale direct key is not re-issued by `to_direct`; a current one is returned as given
example : w2.toDirect cfgEx (.arch 0 (mkKey 1 3 1)) true = .ok none w2 :=
  (C09_to_direct_validates w2_winv 0 (mkKey 1 3 1)).2.2 holeEx rfl (by decide)
example : w2.toDirect cfgEx (.arch 0 (mkKey 1 3 2)) true = .ok (some (mkKey 1 3 2)) w2 :=
  ((C09_to_direct_validates w2_winv 0 (mkKey 1 3 2)).2.1).mpr rfl

end Examples
end Gecs

section
open Gecs
#print axioms C09_issue_world
#print axioms C09_safe_world
#print axioms C09_dies_world
#print axioms sreach_lost_version_lt
#print axioms C09_lives_world
#print axioms C09_lives_without_removal
#print axioms C09_to_direct_validates
#print axioms C09_minted_by_to_direct_is_accepted
end
