/-
`Archetype::iter` / `iter_mut` TRANSLATED: constructor literal fields (storage.rs), the
statements of both `next` bodies and the method names of both `impl Iterator` blocks (iter.rs).
Obligation lists for Lemmas/GenIter.lean (C06: every live entity exactly once, `len` items;
C02: each item carries the entity's own handle and component values).  Non-vacuity: the
populated example storage of Lemmas/GenSteps.lean.
-/
import Gecs.Lemmas.GenIter

-- OBLIGATIONS(C06): Gecs.gen_iter_visits_each_once Gecs.gen_iter_next_shape Gecs.gen_iter_ctor
-- OBLIGATIONS(C02): Gecs.gen_iter_visits_each_once Gecs.gen_iter_next_shape

namespace Gecs

example : drain Gen.iterNextSteps f1State 5 ⟨1, 0, 0⟩ = some [(⟨0, 1⟩, [42])] := by decide +kernel

end Gecs
