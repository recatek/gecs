/-
The TRANSLATED bit-level expressions (Gecs/Gen/Exprs.lean: regenerated on every run by
tools/extract.py from the token sequences of src/entity.rs, src/archetype/slot.rs and
src/index.rs — key packing and unpacking, the hashed word, the slot-index encoding, the range
of a `TrimmedIndex`) are the functions the hand-written model computes with
(Model/Bits.lean: `packKey`, `keyId`, `keyIndex`, `hashInput`; Model/Check.lean: `encodeIdx`,
`decodeIdx`; Model/Storage.lean: `nextVer`, for the version step of src/version.rs).  Proofs:
Gecs/Lemmas/GenExprs.lean, Gecs/Lemmas/GenVersion.lean.  If one of these expressions changes in the
Rust code, the generated definition changes and its tie theorem stops checking; every property
that rests on the encoding is then reported, with a search for a failing input (the boundary
run `B12` issues all 2^24 handles of one archetype; `conv` / `cmp` / `dump` lines compare words).
Only the obligation lists live here.
-/
import Gecs.Lemmas.GenExprs
import Gecs.Lemmas.GenVersion

-- OBLIGATIONS(C08): Gecs.gen_expr_pack_key Gecs.gen_expr_pack_key_raw Gecs.gen_expr_pack_key_inj Gecs.gen_expr_trimmed
-- OBLIGATIONS(C14): Gecs.gen_expr_pack_key Gecs.gen_expr_key_id Gecs.gen_expr_key_index Gecs.gen_expr_hash_word
-- OBLIGATIONS(C03): Gecs.gen_expr_slot_decode Gecs.gen_expr_slot_encode Gecs.gen_expr_trimmed Gecs.gen_expr_key_index
-- OBLIGATIONS(C01): Gecs.gen_expr_slot_decode Gecs.gen_expr_slot_encode Gecs.gen_expr_key_index
-- OBLIGATIONS(C12): Gecs.gen_expr_trimmed
-- OBLIGATIONS(C08): Gecs.gen_version_step Gecs.gen_version_step_spec
-- OBLIGATIONS(C09): Gecs.gen_version_step
-- OBLIGATIONS(C10): Gecs.gen_version_step Gecs.gen_version_step_spec
-- OBLIGATIONS(C19): Gecs.gen_version_step Gecs.gen_version_step_spec

namespace Gecs
#check @gen_expr_pack_key
#check @gen_expr_slot_decode
end Gecs
