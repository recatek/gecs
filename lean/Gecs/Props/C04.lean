/-
C04 — Each component value is dropped exactly once; nothing leaks or double-drops.
Model: Gecs/Model/Storage.lean with the element type instantiated by unique tokens; what an
operation hands back to the caller is its result row, what the world drops is
`dropStorage`'s result.  Tied to the real code by the instrumented Clone/Drop registry of
harness/rt (every op reports the tokens dropped inside gecs; `end` reports the balance).
History = labelled path (`LReach`, Lemmas/Labelled.lean).  `owned s` = all cells of all columns.
Modelled, not verified: that the bit-copies of `swap_remove`/`realloc` run no destructor
(Miri on the harness in the thorough tier is the supporting evidence).
World-history forms (incl. writes and clones): Props/Histories.lean, Props/C04Histories.lean; panicking Clone/Drop: Props/Faults.lean.
-/
import Gecs.Lemmas.Ownership

-- OBLIGATIONS: Gecs.C04_conservation Gecs.C04_dropped_exactly_once Gecs.C04_no_double_no_live_drop
-- OBLIGATIONS: Gecs.C04_clone_each_once Gecs.C04_failed_create_returns_argument Gecs.C04_drop_is_owned
-- OBLIGATIONS: Gecs.created_owned Gecs.destroyed_owned Gecs.write_owned

namespace Gecs
variable {α : Type}

/-- Conservation: everything moved in is either still owned or was handed back. -/
theorem C04_conservation {cfg : Cfg} {s s' : Storage α} {L : List (Lbl α)}
    (hr : RowsOk s.cols.length L) (hcdc : ∀ l ∈ L, l.isCDC = true) (r : LReach cfg s L s') :
    (owned s' ++ destroyedRows L).Perm (owned s ++ createdRows L) :=
  conservation hr hcdc r

/-- What is still owned is exactly what `Drop` of the storage drops. -/
theorem C04_dropped_exactly_once {cfg : Cfg} {s s' : Storage α} {L : List (Lbl α)} (h : Inv cfg s)
    (hr : RowsOk s.cols.length L) (hcdc : ∀ l ∈ L, l.isCDC = true) (r : LReach cfg s L s') :
    ∃ dropped, dropStorage s' = .ok dropped ()
      ∧ (dropped ++ destroyedRows L).Perm (owned s ++ createdRows L) :=
  conservation_drop h hr hcdc r

/-- With pairwise distinct values: nothing is owned twice, nothing is handed back twice, and
nothing is handed back while still owned — in particular not while its entity is alive. -/
theorem C04_no_double_no_live_drop {cfg : Cfg} {s s' : Storage α} {L : List (Lbl α)}
    (hr : RowsOk s.cols.length L) (hcdc : ∀ l ∈ L, l.isCDC = true) (r : LReach cfg s L s')
    (hnd : (owned s ++ createdRows L).Nodup) :
    (owned s').Nodup ∧ (destroyedRows L).Nodup ∧ (∀ x ∈ destroyedRows L, x ∉ owned s')
      ∧ (∀ e row, valueOf s' e = some row → ∀ x ∈ row, x ∉ destroyedRows L) :=
  nodup_preserved hr hcdc r hnd

/-- Cloning clones each live component exactly once; the source keeps its own values. -/
theorem C04_clone_each_once {cfg : Cfg} {s s' s₀ : Storage α} {cl : α → α} (h : Inv cfg s)
    (hc : cloneStorage cl s = .ok s' s₀) : owned s' = (owned s).map cl ∧ owned s₀ = owned s :=
  cloneStorage_owned h hc

/-- A failed `create_within_capacity` changes nothing (its argument goes back to the caller). -/
theorem C04_failed_create_returns_argument {cfg : Cfg} {s : Storage α} (row : List α) (h : Inv cfg s)
    (hfull : s.len ≥ s.capacity) : pushWithin cfg s row = .ok none s :=
  pushWithin_full row hfull

theorem C04_drop_is_owned {cfg : Cfg} {s : Storage α} (h : Inv cfg s) :
    dropStorage s = .ok (owned s) () :=
  drop_returns_owned h

end Gecs
