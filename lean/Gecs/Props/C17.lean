/-
C17 — Event logs record exactly the creations and destructions since the last clear.
Models: Gecs/Model/Storage.lean (`created`/`destroyed` appended by `forceCreate` /
`forceDestroy`, `clearEvents`) and Gecs/Model/Events.lean (the generated world-level
`EcsEventIterator` as a state machine), tied to the real code by the `events` / `clear`
lines of harness/rt built with `--features events`.
A history of one archetype is a labelled path `LReach cfg s L s'` (Lemmas/Labelled.lean):
`L` lists, in order, what every successful operation did (`.created e row` = a create
returned `e`; `.destroyed t row` = `t` was removed by ANY path — all four key kinds, at
both levels, and each removal of `ecs_iter_destroy!` go through `destroyEnt`/`destroyDirect`;
a refused or failed operation contributes no label).  `stepOp_labelled` and `run_labelled_emits`
(Lemmas/StepRun.lean) show that every API operation changes each archetype by such a path.
World-history forms: Props/Histories.lean (`C17_all_histories`, `C17_since_last_clear`).
-/
import Gecs.Lemmas.EventLogs
import Gecs.Lemmas.Events

-- OBLIGATIONS: Gecs.C17_logs Gecs.C17_since_clear Gecs.C17_clear_only_logs Gecs.C17_feature_off
-- OBLIGATIONS: Gecs.C17_world_iterator Gecs.C17_size_hint_every_position Gecs.EvIter.next_spec
-- OBLIGATIONS: Gecs.EvIter.sizeHint_exact Gecs.EvIter.next_which_lt

namespace Gecs
variable {α : Type}

/-- With the feature on, along every history the two logs are the fold of the labels. -/
theorem C17_logs {cfg : Cfg} {s s' : Storage α} {L : List (Lbl α)}
    (hev : cfg.events = true) (r : LReach cfg s L s') :
    s'.created = logC s.created L ∧ s'.destroyed = logD s.destroyed L :=
  lreach_logs_on hev r

/-- After a clear, the created log is exactly the handles returned by the creations since
then, in order, and the destroyed log exactly the handles removed since then, in order
(each once: a handle is removed at most once, see C01). -/
theorem C17_since_clear {cfg : Cfg} {s s' : Storage α} {L₁ L₂ : List (Lbl α)}
    (hev : cfg.events = true) (hnc : hasClear L₂ = false)
    (r : LReach cfg s (L₁ ++ [.clear] ++ L₂) s') :
    s'.created = createdOf L₂ ∧ s'.destroyed = destroyedOf L₂ :=
  logs_since_clear hev hnc r

/-- `clear_events` empties the logs without affecting entities. -/
theorem C17_clear_only_logs (s : Storage α) :
    (clearEvents s).ents = s.ents ∧ (clearEvents s).cols = s.cols
      ∧ (clearEvents s).slots = s.slots ∧ (clearEvents s).len = s.len
      ∧ (clearEvents s).capacity = s.capacity ∧ (clearEvents s).version = s.version
      ∧ (clearEvents s).freeHead = s.freeHead
      ∧ (clearEvents s).created = [] ∧ (clearEvents s).destroyed = [] :=
  ⟨rfl, rfl, rfl, rfl, rfl, rfl, rfl, rfl, rfl⟩

/-- Without the feature nothing is ever logged. -/
theorem C17_feature_off {cfg : Cfg} {s s' : Storage α} {L : List (Lbl α)}
    (hev : cfg.events = false) (r : LReach cfg s L s') :
    s'.created = (if hasClear L then [] else s.created)
    ∧ s'.destroyed = (if hasClear L then [] else s.destroyed) :=
  lreach_logs_off hev r

/-- The world-level iterator yields precisely the concatenation of the per-archetype logs
(archetypes with empty logs anywhere). -/
theorem C17_world_iterator (logs : List (List Key)) :
    (EvIter.drain (logs.flatten.length + 1) (EvIter.start logs)).1 = logs.flatten :=
  (EvIter.drain_spec _ _ (EvIter.start_ok logs) (Nat.le_refl _)).1

/-- `size_hint` is exact at every position: before the j-th `next` it is the number of
items not yet yielded. -/
theorem C17_size_hint_every_position (logs : List (List Key)) {j : Nat} (hj : j ≤ logs.flatten.length) :
    (EvIter.drain (logs.flatten.length + 1) (EvIter.start logs)).2[j]? =
      some (logs.flatten.length - j, some (logs.flatten.length - j)) :=
  EvIter.drain_hint_getElem (EvIter.start_ok logs) (Nat.le_refl _) hj

end Gecs

section
open Gecs
#print axioms C17_clear_only_logs
#print axioms C17_world_iterator
end
