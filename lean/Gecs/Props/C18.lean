/-
C18 — Generated code is unsafe-free and unsound client programs do not compile.
This is the property least suited to the technique: two thirds of it is about rustc.
 (a) unsafe-freedom of the expansions: decided universally over the template-token table
     GENERATED from macros/src/generate/*.rs on every run (every token that occurs inside a
     `quote!`/`quote_spanned!`); tie: harness/rt and tools/rustc_probes.py compile the real
     expansions under `#![forbid(unsafe_code)]`.
 (c) auto traits: decided on the model of the structural rule (Gecs/Model/Env.lean) over the
     field table GENERATED from the struct definitions and the two `unsafe impl`s; tie:
     rustc probes of tools/rustc_probes.py.
 (b) borrow envelope: over the API signature table GENERATED from src/traits.rs with ONE
     modelled rule of the borrow checker: the receivers of the holders and of the structural
     operations are decided on the table, and the rule then rejects the full product holders x
     structural operations; tie: tools/rustc_probes.py compiles one minimal program per pair,
     each with a sound twin that must compile.
 Cannot be done here: a proof that rustc's borrow checker rejects EVERY unsound client
 program would need a formal semantics of Rust's type system.
-/
import Gecs.Gen.Tokens
import Gecs.Gen.FieldsAst
import Gecs.Gen.Sigs
import Gecs.Gen.Fields
import Gecs.Model.Env

-- OBLIGATIONS: Gecs.Env.C18_templates_clean Gecs.Env.C18_unsafe_impls_are_the_modelled_ones
-- OBLIGATIONS: Gecs.Env.C18_storage_never_sync Gecs.Env.C18_storage_send_iff_components_send
-- OBLIGATIONS: Gecs.Env.C18_handles_send_sync_regardless Gecs.Env.C18_envelope Gecs.Env.C18_twins_ok
-- OBLIGATIONS: Gecs.Env.C18_structural_ops_exclusive Gecs.Env.C18_holders_borrow
-- OBLIGATIONS: Gecs.Env.C18_reference_conversions_tied

namespace Gecs.Env

/-- What `#![forbid(unsafe_code)]` rejects, plus the ways to smuggle unsafety in. -/
def forbiddenTokens : List String :=
  ["unsafe", "no_mangle", "export_name", "link_section", "link_name", "unsafe_code", "extern",
   "asm", "global_asm", "naked", "transmute", "static"]

/-- (a) No template the generators can emit contains a forbidden token. -/
theorem C18_templates_clean : ∀ t ∈ Gen.templateTokens, t ∉ forbiddenTokens := by
  decide +kernel

/-- The only manual `Send`/`Sync` impls are the two the leaf table of the model encodes. -/
theorem C18_unsafe_impls_are_the_modelled_ones :
    Gen.unsafeImpls =
      ["unsafe impl < T > Send for DataPtr < T > where T : Send",
       "unsafe impl < T > Sync for DataPtr < T > where T : Sync"] :=
  rfl

/-- environments: are the components (`T~I`) / the archetype marker (`A`) Send / Sync? -/
def envOf (compSend compSync aSend aSync : Bool) : TEnv :=
  ⟨fun n => if n == "A" then aSend else compSend, fun n => if n == "A" then aSync else compSync⟩

/-- `StorageN<A, T0, …>`: its key in `Gen.fieldTable` (Gen/FieldsAst.lean) is `"$name"`, the
metavariable under which `declare_storage_n!` (src/archetype/storage.rs) declares the struct.
The fuel `8` used below is more than the unfolding takes: out of fuel `auto` answers `false`, and
`C18_storage_send_iff_components_send` and `C18_handles_send_sync_regardless` get `true`; the `Sync`
question walks the same tree and stops earlier, at the `RefCell` column. -/
def storageTy : Ty := .app "$name" [.param "A", .param "T~I"]

/-- (c) A storage — hence an archetype, hence a world, which is a struct of archetypes each
wrapping one storage — is never `Sync`, whatever the components are. -/
theorem C18_storage_never_sync :
    ∀ cs cy a b : Bool, isSync Gen.fieldTable (envOf cs cy a b) 8 storageTy = false := by
  decide +kernel

/-- … and is `Send` exactly when the component types are. -/
theorem C18_storage_send_iff_components_send :
    ∀ cs cy a b : Bool, isSend Gen.fieldTable (envOf cs cy a b) 8 storageTy = cs := by
  decide +kernel

/-- Handles are `Send + Sync` regardless of the archetype / component types
(`PhantomData<fn() -> A>`); `Copy` is by the manual `impl Copy` on plain words. -/
theorem C18_handles_send_sync_regardless :
    ∀ cs cy a b : Bool, ∀ h ∈ ["Entity", "EntityDirect", "EntityAny", "EntityDirectAny"],
      isSend Gen.fieldTable (envOf cs cy a b) 8 (.app h [.param "A"]) = true ∧
      isSync Gen.fieldTable (envOf cs cy a b) 8 (.app h [.param "A"]) = true := by
  decide +kernel

-- The three facts about the rule that (b) uses; none looks at a table.
theorem rejected_of_not_borrows {f g : Sig} (h : f.resultBorrows = false) : rejected f g = false := by
  unfold rejected; rw [h]; rfl

theorem rejected_shared_shared {f g : Sig} (hf : f.recv = .shared) (hg : g.recv = .shared) :
    rejected f g = false := by
  unfold rejected; rw [hf, hg]; exact Bool.and_false _

theorem rejected_of_exclusive {f g : Sig} (hb : f.resultBorrows = true)
    (hf : f.recv = .shared ∨ f.recv = .exclusive) (hg : g.recv = .exclusive) : rejected f g = true := by
  unfold rejected; rw [hb, hg]; rcases hf with hf | hf <;> rw [hf] <;> rfl

/-- (b) the holders: every API item whose result borrows the world … -/
def holders : List Sig := Gen.sigs.filter (·.resultBorrows)

/-- … and the structural operations. -/
def structuralOps : List Sig :=
  Gen.sigs.filter (fun s => ["World::create", "World::create_within_capacity", "World::destroy",
    "World::clear_events", "Archetype::create", "Archetype::create_within_capacity",
    "Archetype::destroy", "Archetype::clear_events"].contains s.item)

-- The length clauses keep `C18_envelope` from holding vacuously should the generated table come out
-- short: all eight names are found in it, and `20` is a floor for the holders, not their count.
theorem C18_structural_ops_exclusive :
    structuralOps.length = 8 ∧ ∀ g ∈ structuralOps, g.recv = .exclusive := by
  decide +kernel

theorem C18_holders_borrow : holders.length ≥ 20 ∧ ∀ f ∈ holders, f.recv = .shared ∨ f.recv = .exclusive := by
  decide

/-- Envelope: holding the result of ANY borrowing API item across ANY structural operation
is rejected by the modelled rule. -/
theorem C18_envelope : ∀ f ∈ holders, ∀ g ∈ structuralOps, rejected f g = true :=
  fun f hf g hg => rejected_of_exclusive (List.mem_filter.mp hf).2 (C18_holders_borrow.2 f hf)
    (C18_structural_ops_exclusive.2 g hg)

/-- … while the twin that releases the hold first has nothing to be rejected for, and
shared holds coexist with shared uses. -/
theorem C18_twins_ok :
    (∀ g ∈ structuralOps, ∀ f ∈ Gen.sigs, f.resultBorrows = false → rejected f g = false) ∧
    (∀ f ∈ holders, ∀ g ∈ Gen.sigs, f.recv = .shared → g.recv = .shared → rejected f g = false) :=
  ⟨fun _ _ _ _ => rejected_of_not_borrows, fun _ _ _ _ => rejected_shared_shared⟩

/-- (b') the reference-to-reference conversions (`From<&Entity<A>> for &EntityAny` and its three
siblings, all `unsafe { transmute }`): the table GENERATED from the impl headers of src/** says
for each whether the produced reference carries the consumed reference's lifetime.  All must:
an untied conversion lets safe code keep a handle reference across a structural change.
Tie: tools/rustc_probes.py compiles, per generated row, a program stretching the result to `'static`
(must be rejected) and its twin (must compile). -/
theorem C18_reference_conversions_tied : ∀ r ∈ Gen.refImpls, r.2 = true := by
  decide

example : Gen.refImpls.length ≥ 1 := by decide

end Gecs.Env
