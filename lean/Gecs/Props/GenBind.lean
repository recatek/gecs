/-
The four parameter-binding tables of macros/src/generate/query.rs TRANSLATED row by row
(Gen/Steps.lean: `iterBindMut`, `iterBindBorrow`, `findBindMut`, `findBindBorrow`): obligation
lists for Lemmas/GenBind.lean.  `bindArgs` is what every query theorem (C02, C06, C07, C09) feeds
the user closure with; `gen_bind_args` says the generated code feeds it the same.  The check on
the tables alone, `gen_bind_tables_ok`, is also charged to C11 (the shared component arm never
binds mutably) and C14 (an `…Any` parameter gets the typed handle through `.into()`).
-/
import Gecs.Lemmas.GenBind

-- OBLIGATIONS(C02): Gecs.gen_bind_args Gecs.gen_bind_tables_ok
-- OBLIGATIONS(C06): Gecs.gen_bind_args
-- OBLIGATIONS(C07): Gecs.gen_bind_args
-- OBLIGATIONS(C09): Gecs.gen_bind_args
-- OBLIGATIONS(C11): Gecs.gen_bind_tables_ok
-- OBLIGATIONS(C14): Gecs.gen_bind_tables_ok

namespace Gecs
#check @gen_bind_args
end Gecs
