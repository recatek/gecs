/-
C12 — `len` and `capacity` are exact; creation respects the capacity and the 2^24 limit.
Model: Gecs/Model/Storage.lean (`withCapacity`, `push` = `Archetype::create`, `pushWithin` =
`create_within_capacity`, `grow`, `forceCreate`, `forceDestroy`), Gecs/Model/History.lean
(`run`, `GrowOk`), tied to src/archetype/storage.rs by the `new` / `create` / `createw` /
`destroy` lines of harness/rt and the summary `len/capacity/version` per archetype that ends
every line.  ALL statements are for a SYMBOLIC `cfg.maxCap` (the real
constant is `MAX_DATA_CAPACITY = 2^24`, see Gen/Consts) and an arbitrary admissible growth
function (`GrowOk`; the code's own formula is one: `C12_code_growth_admissible`).
`pushWithinN` (Lemmas/StorageOps.lean) is `pushWithin` folded over a list of rows.
The history-level statements carry the well-scopedness hypothesis of `run_inv`
(`OpsScoped`: archetype / column numbers exist — guaranteed statically in Rust).
Not modelled: allocation failure; the byte-size (`Layout`) overflow check inside
`DataPtr::grow` (unreachable below 2^24 entries for component types of realistic size).
-/
import Gecs.Lemmas.CheckSound
import Gecs.Lemmas.StoragePaths
import Gecs.Lemmas.StepRun
import Gecs.Lemmas.GenTie

-- OBLIGATIONS: Gecs.C12_len_is_live_count Gecs.C12_len_le_capacity_le_max Gecs.C12_capacity_monotone
-- OBLIGATIONS: Gecs.C12_with_capacity Gecs.C12_within_capacity_iff Gecs.C12_create_succeeds_below_limit
-- OBLIGATIONS: Gecs.C12_create_at_limit_panics_cleanly Gecs.C12_refill_after_any_history
-- OBLIGATIONS: Gecs.C12_code_growth_admissible Gecs.C12_len_step_exact
-- OBLIGATIONS: Gecs.gen_max_capacity Gecs.gen_growth_strict Gecs.gen_slot_encoding_sound
-- OBLIGATIONS: Gecs.invCheck_iff

namespace Gecs
variable {α : Type}

/-- `len()` is exactly the number of live entities, each listed once; `is_empty()` is exact. -/
theorem C12_len_is_live_count {cfg : Cfg} {s : Storage α} (h : Inv cfg s) :
    s.len = s.ents.length ∧ s.ents.Nodup ∧ (s.len = 0 ↔ s.ents = []) :=
  ⟨h.entsLen.symm, ents_nodup h, is_empty_iff h⟩

/-- `len ≤ capacity ≤ MAX_DATA_CAPACITY`, and the slot table has exactly `capacity` cells. -/
theorem C12_len_le_capacity_le_max {cfg : Cfg} {s : Storage α} (h : Inv cfg s) :
    s.len ≤ s.capacity ∧ s.capacity ≤ cfg.maxCap ∧ s.slots.length = s.capacity :=
  ⟨h.lenCap, h.capMax, h.slotsLen⟩

/-- One atomic step changes `len` by exactly 0 (writes, clear, clone), `+1` (a successful
create, the new handle appended) or `-1` (a successful removal). -/
theorem C12_len_step_exact {cfg : Cfg} {s s' : Storage α} (h : Inv cfg s) (hs : SStep cfg s s') :
    (s'.len = s.len ∧ s'.ents = s.ents)
    ∨ (∃ e, s'.len = s.len + 1 ∧ s'.ents = s.ents ++ [e] ∧ e ∉ s.ents)
    ∨ (∃ t, s'.len + 1 = s.len ∧ t ∈ s.ents ∧ ∀ x, x ∈ s'.ents ↔ (x ∈ s.ents ∧ x ≠ t)) :=
  sstep_len h hs

/-- Along every history (panicking operations included) no archetype's capacity ever
shrinks: for every archetype index `a`, the final capacity is at least the initial one. -/
theorem C12_capacity_monotone {cfg : Cfg} {w w' : World α} {ops : List (Op α)} (hw : WInv cfg w)
    (hc : CfgOk cfg) (ho : OpsOk cfg ops) (hs : OpsScoped w.sch ops)
    (hr : run cfg w ops = some w') (a : Nat) (s s' : Storage α)
    (g1 : w.archs[a]? = some s) (g2 : w'.archs[a]? = some s') :
    s.capacity ≤ s'.capacity ∧ s'.len ≤ s'.capacity ∧ s'.capacity ≤ cfg.maxCap := by
  obtain ⟨w'', h1, h2, _⟩ := run_inv hw hc ho hs
  rw [hr] at h1; cases h1
  have hi := h2.get g2
  exact ⟨run_capacity_mono hw ho hs hr a s s' g1 g2, hi.lenCap, hi.capMax⟩

/-- `with_capacity(cap)` succeeds iff `cap ≤ MAX_DATA_CAPACITY` (it panics otherwise); the
result has capacity exactly `cap`, `len` 0, and then `cap` successive
`create_within_capacity` calls succeed (each returns a handle) without changing the
capacity. -/
theorem C12_with_capacity (cfg : Cfg) (ncols cap : Nat) (hv : CfgOk cfg) :
    ((∃ s : Storage α, withCapacity cfg ncols cap = .ok () s) ↔ cap ≤ cfg.maxCap)
    ∧ (cap > cfg.maxCap →
        ∃ s : Storage α, withCapacity cfg ncols cap = .panic "capacity may not exceed" s)
    ∧ (∀ s : Storage α, withCapacity cfg ncols cap = .ok () s →
        Inv cfg s ∧ s.capacity = cap ∧ s.len = 0 ∧ s.cols.length = ncols
        ∧ ∀ rows : List (List α), rows.length ≤ cap →
            ∃ es s', pushWithinN cfg s rows = .ok (es.map some) s' ∧ es.length = rows.length
              ∧ Inv cfg s' ∧ s'.len = rows.length ∧ s'.capacity = cap ∧ s'.ents = es) := by
  refine ⟨⟨fun ⟨s, hs⟩ => (withCapacity_ok_iff.mp hs).1,
    fun hc => ⟨_, withCapacity_eq cfg ncols cap hc⟩⟩, withCapacity_panics cfg ncols cap, ?_⟩
  intro s hs
  obtain ⟨hc, rfl⟩ := withCapacity_ok_iff.mp hs
  have hi := withCapacity_inv (α := α) cfg ncols cap hc hv
  refine ⟨hi, rfl, rfl, by simp [Storage.grown, emptyStorage], fun rows hk => ?_⟩
  obtain ⟨es, s', g1, g2, g3, g4, g5, g6, _⟩ := refill cfg _ rows hi hk
  exact ⟨es, s', g1, g2, g3, by rw [g4]; exact Nat.zero_add _, g5, by rw [g6]; rfl⟩

/-- `create_within_capacity` succeeds iff `len < capacity`.  On success the capacity is
unchanged, `len` grows by one and the new handle is appended; otherwise the state is returned
unchanged with `none` (= `Err(data)`: the argument is handed back). -/
theorem C12_within_capacity_iff {cfg : Cfg} {s : Storage α} (h : Inv cfg s) (row : List α) :
    ((∃ e s', pushWithin cfg s row = .ok (some e) s') ↔ s.len < s.capacity)
    ∧ (s.len < s.capacity →
        ∃ e s', pushWithin cfg s row = .ok (some e) s' ∧ Inv cfg s' ∧ s'.capacity = s.capacity
          ∧ s'.len = s.len + 1 ∧ s'.ents = s.ents ++ [e] ∧ e ∉ s.ents)
    ∧ (¬ s.len < s.capacity → pushWithin cfg s row = .ok none s) := by
  refine ⟨pushWithin_ok_iff h, fun hlt => ?_, fun hn => pushWithin_full row (Nat.not_lt.mp hn)⟩
  obtain ⟨e, s', h1, c, hcap⟩ := pushWithin_ok row h hlt
  exact ⟨e, s', h1, c.inv, hcap, c.len, c.ents, c.notMem⟩

/-- `create` (with any admissible growth) succeeds whenever `len < MAX_DATA_CAPACITY`: it
grows when full, never shrinks, and the new handle is appended. -/
theorem C12_create_succeeds_below_limit {cfg : Cfg} {s : Storage α} (h : Inv cfg s)
    (hv : CfgOk cfg) (g : Nat → Nat) (hg : GrowOk cfg g) (row : List α)
    (hlt : s.len < cfg.maxCap) :
    ∃ e s', push cfg g s row = .ok e s' ∧ Inv cfg s' ∧ s'.len = s.len + 1
      ∧ s.capacity ≤ s'.capacity ∧ s'.ents = s.ents ++ [e] ∧ e ∉ s.ents
      ∧ (s.len < s.capacity → s'.capacity = s.capacity)
      ∧ (¬ s.len < s.capacity → s'.capacity = g s.capacity) := by
  obtain ⟨e, s', h1, c, hcap⟩ := push_ok row h (hg _) hlt
  exact ⟨e, s', h1, c.inv, c.len, c.cap, c.ents, c.notMem,
    fun hh => by rw [hcap, if_pos hh], fun hh => by rw [hcap, if_neg hh]⟩

/-- At `len = MAX_DATA_CAPACITY` `create` panics with "capacity overflow" and the storage is
unchanged; conversely this is the only way `create` panics. -/
theorem C12_create_at_limit_panics_cleanly {cfg : Cfg} {s : Storage α} (h : Inv cfg s)
    (hv : CfgOk cfg) (g : Nat → Nat) (hg : GrowOk cfg g) (row : List α) :
    (s.len = cfg.maxCap → push cfg g s row = .panic "capacity overflow" s)
    ∧ (∀ msg s', push cfg g s row = .panic msg s' →
        s.len = cfg.maxCap ∧ msg = "capacity overflow" ∧ s' = s) := by
  refine ⟨fun hfull => (push_overflow cfg g s row h hfull).2, ?_⟩
  intro msg s' hp
  rcases push_spec row h (hg _) with ⟨_, _, _, h1, _⟩ | ⟨hfull, h1⟩ <;> rw [h1] at hp <;> cases hp
  exact ⟨hfull, rfl, rfl⟩

/-- After ANY history (creates, removals by any key, queries with arbitrary closures, panics,
clones …), every archetype storage `s'` of the final world allows exactly
`s'.capacity - s'.len` further successful `create_within_capacity` calls — every position
freed by a destroy is reusable, without growing — and then the next one is refused. -/
theorem C12_refill_after_any_history {cfg : Cfg} {w : World α} {ops : List (Op α)}
    (hw : WInv cfg w) (hc : CfgOk cfg) (ho : OpsOk cfg ops) (hs : OpsScoped w.sch ops) :
    ∃ w', run cfg w ops = some w'
      ∧ ∀ (a : Nat) (s' : Storage α), w'.archs[a]? = some s' →
          ∀ rows : List (List α), rows.length = s'.capacity - s'.len →
            ∃ es s'', pushWithinN cfg s' rows = .ok (es.map some) s''
              ∧ es.length = rows.length ∧ Inv cfg s'' ∧ s''.capacity = s'.capacity
              ∧ s''.len = s'.capacity ∧ s''.ents = s'.ents ++ es
              ∧ ∀ row, pushWithin cfg s'' row = .ok none s'' := by
  obtain ⟨w', h1, h2, _⟩ := run_inv hw hc ho hs
  refine ⟨w', h1, ?_⟩
  intro a s' ha rows hk
  have hi := h2.get ha
  obtain ⟨es, s'', g1, g2, g3, g4, g5, g6, _⟩ := refill cfg s' rows hi (Nat.le_of_eq hk)
  have hlen : s''.len = s'.capacity := by have := hi.lenCap; omega
  exact ⟨es, s'', g1, g2, g3, g5, hlen, g6,
    fun row => pushWithin_full row (by rw [hlen, g5]; exact Nat.le_refl _)⟩

/-- The code's own growth formula `min((cap + 1) * 2, MAX_DATA_CAPACITY)` is admissible. -/
theorem C12_code_growth_admissible (cfg : Cfg) : GrowOk cfg (codeGrowth cfg) :=
  codeGrowth_ok cfg

/-! Non-vacuity: the hypotheses are satisfiable by concrete non-trivial instances. -/
namespace StorageEx
open WorldEx

-- a storage with a hole (capacity 3, len 2): `Inv` holds, one refill step, then refused
example : Inv cfgEx holeEx ∧ holeEx.len < holeEx.capacity := ⟨holeEx_inv, by decide⟩
example : ∃ e s', pushWithin cfgEx holeEx [13, 23] = .ok (some e) s' ∧ s'.len = 3 := by
  obtain ⟨e, s', h1, _, _, h4, _⟩ :=
    (C12_within_capacity_iff holeEx_inv [13, 23]).2.1 (by decide)
  exact ⟨e, s', h1, h4⟩
-- a full storage: refused, unchanged
example : pushWithin cfgEx fullEx [12] = .ok none fullEx :=
  (C12_within_capacity_iff fullEx_inv [12]).2.2 (by decide)
-- a storage at the hard limit (`maxCap = 2`)
example : Inv cfgTiny fullEx ∧ fullEx.len = cfgTiny.maxCap := ⟨fullEx_inv_tiny, rfl⟩
example : push cfgTiny (codeGrowth cfgTiny) fullEx [12] = .panic "capacity overflow" fullEx :=
  (C12_create_at_limit_panics_cleanly fullEx_inv_tiny ⟨by decide⟩ _
    (C12_code_growth_admissible cfgTiny) [12]).1 rfl
-- below the limit (`fullEx`: len 2 = capacity 2 < maxCap 8): `create` grows and succeeds
example : ∃ e s', push cfgEx (codeGrowth cfgEx) fullEx [12] = .ok e s' ∧ s'.len = 3
    ∧ s'.capacity = codeGrowth cfgEx 2 := by
  obtain ⟨e, s', h1, _, h3, _, _, _, _, h8⟩ :=
    C12_create_succeeds_below_limit fullEx_inv cfgEx_ok _ (C12_code_growth_admissible cfgEx) [12]
      (by decide)
  exact ⟨e, s', h1, h3, h8 (by decide)⟩
-- the history `histEx` on `wEx` satisfies the hypotheses of the history-level statements
example : WInv cfgEx wEx ∧ OpsOk cfgEx histEx ∧ OpsScoped wEx.sch histEx :=
  ⟨wEx_winv cfgEx (by decide) cfgEx_ok, histEx_ok, histEx_scoped⟩
-- `with_capacity` on both sides of the limit
example : (∃ s : Storage Nat, withCapacity cfgEx 2 8 = .ok () s) :=
  (C12_with_capacity cfgEx 2 8 cfgEx_ok).1.mpr (by decide)
example : ¬ (∃ s : Storage Nat, withCapacity cfgEx 2 9 = .ok () s) :=
  fun h => absurd ((C12_with_capacity cfgEx 2 9 cfgEx_ok).1.mp h) (by decide)

end StorageEx
end Gecs

section
open Gecs
#print axioms C12_len_is_live_count
#print axioms C12_len_le_capacity_le_max
#print axioms C12_len_step_exact
#print axioms C12_capacity_monotone
#print axioms C12_with_capacity
#print axioms C12_within_capacity_iff
#print axioms C12_create_succeeds_below_limit
#print axioms C12_create_at_limit_panics_cleanly
#print axioms C12_refill_after_any_history
#print axioms C12_code_growth_admissible
end
