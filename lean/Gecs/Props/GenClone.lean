/-
`Clone for StorageN` and `Drop for StorageN`, TRANSLATED statement by statement (and, for the
`Self { … }` literal the clone returns, initialiser by initialiser) from the current source
(Gecs/Gen/Steps.lean), decide C13's "observationally identical" and C04's "dropped exactly
once" at the storage level: consequences of Lemmas/GenClone.lean in the words of the
properties.  An early return for an empty storage, a reset version, logs not carried over, a
copy loop bounded by `len` instead of `capacity`, a `drop_to` guarded by a type test or moved
behind the deallocation: each changes the extracted lists and these theorems stop checking.
-/
import Gecs.Lemmas.GenClone
import Gecs.Lemmas.GenStepsApi

-- OBLIGATIONS(C13): Gecs.gen_steps_clone Gecs.GenClone_C13_identical
-- OBLIGATIONS(C04): Gecs.gen_steps_clone Gecs.gen_steps_drop Gecs.GenClone_C04_drop_exactly_owned Gecs.GenClone_C04_clone_each_once
-- OBLIGATIONS(C10): Gecs.gen_steps_clone Gecs.gen_steps_drop
-- OBLIGATIONS(C17): Gecs.gen_steps_clone

namespace Gecs

variable {α : Type}

/-- C13 for the extracted statements: in every invariant state (an emptied, a grown, a
free-list-scrambled storage alike) the clone has the same `len`, `capacity`, archetype version,
free list head, slot array (generations and free chain), dense handles and both event logs, its
columns are the originals mapped through `Clone::clone`, and the original is untouched. -/
theorem GenClone_C13_identical (cfg : Cfg) (cl : α → α) (s : Storage α) (h : Inv cfg s) :
    execClone cfg cl Gen.cloneSteps Gen.cloneFields s = .ok { s with cols := s.cols.map (·.map cl) } s := by
  have h1 := gen_steps_clone cfg cl s h.lenCap
  rw [cloneStorage_spec h] at h1
  exact Out.same_ok (Out.same_symm h1) rfl

/-- C04 (clone side): the clone holds exactly one clone of each live cell, column by column. -/
theorem GenClone_C04_clone_each_once (cfg : Cfg) (cl : α → α) (s c s' : Storage α) (h : Inv cfg s)
    (hc : execClone cfg cl Gen.cloneSteps Gen.cloneFields s = .ok c s') :
    c.cols = s.cols.map (·.map cl) ∧ s' = s := by
  rw [GenClone_C13_identical cfg cl s h] at hc
  cases hc; exact ⟨rfl, rfl⟩

/-- C04 (drop side): the extracted `drop` drops exactly the cells the storage owns, each once. -/
theorem GenClone_C04_drop_exactly_owned (cfg : Cfg) (s : Storage α) (h : Inv cfg s) :
    execDrop Gen.dropSteps s = .ok s.cols.flatten () := by
  have h1 := gen_steps_drop s
  rw [dropStorage_spec h, List.flatMap_id] at h1
  exact Out.same_ok (Out.same_symm h1) rfl

/-- Non-vacuity: the populated example storage (Lemmas/GenSteps.lean) is cloned and dropped by
the extracted statements. -/
example : (match execClone f1Cfg (· + 1) Gen.cloneSteps Gen.cloneFields f1State with
            | .ok c _ => (c.cols, c.version, c.len) | _ => ([], 0, 0)) = ([[43]], 7, 1)
    ∧ (match execDrop Gen.dropSteps f1State with | .ok l _ => l | _ => []) = [42] := by
  decide +kernel

end Gecs
