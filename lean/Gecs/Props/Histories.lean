/-
C02, C04, C13, C17 — stated for EVERY FINITE HISTORY of whole-world operations (the per-storage
forms over labelled paths are in Props/C02, C04, C13, C17; the induction over operations that
keeps the labels is `run_labelled_emits`, Lemmas/StepRun.lean).  First, what the operations of a
history say about the labels it emits: `RowsOk` from `OpsScoped` (C02, C04 need every creation
label to carry one value per column), `Lbl.isCDC` from the absence of writing / cloning operations
(`Op.IsCDC`; C04), `hasClear = false` from the absence of `clear_events` (C17).
-/
import Gecs.Lemmas.StepRun
import Gecs.Props.C02
import Gecs.Props.C04
import Gecs.Props.C13
import Gecs.Props.C17

-- OBLIGATIONS(C02): Gecs.C02_all_histories Gecs.C02_fetch_all_histories Gecs.run_labelled_emits Gecs.OpsEmit.rowsOk
-- OBLIGATIONS(C04): Gecs.C04_all_histories Gecs.run_labelled_emits Gecs.OpsEmit.cdc Gecs.OpsEmit.rowsOk
-- OBLIGATIONS(C13): Gecs.C13_all_histories
-- OBLIGATIONS(C17): Gecs.C17_all_histories Gecs.C17_since_last_clear Gecs.run_labelled_emits Gecs.OpsEmit.noClear
-- OBLIGATIONS(C02): Gecs.fresh_all_histories Gecs.withCapacity_all_histories

namespace Gecs
variable {α σ : Type}

/-- Rows moved in by a well-scoped history have one value per column. -/
theorem OpsEmit.rowsOk {sch : List Nat} {a n : Nat} {ops : List (Op α)} {L : List (Lbl α)}
    (hs : OpsScoped sch ops) (hn : sch[a]? = some n) (h : OpsEmit a ops L) : RowsOk n L := by
  intro e row hm
  obtain ⟨op, hop, hem⟩ := h.mem _ hm
  have hsc := hs op hop
  -- only the two creating operations emit `.created`, with their own row, in their own archetype
  cases op <;> try exact hem.elim
  all_goals
    obtain ⟨rfl, rfl⟩ := hem
    exact (Option.some.inj (hn.symm.trans hsc)).symm

/-- Operations that neither overwrite a component value nor clone: creations, removals,
`clear_events`, and query loops that bind no column `&mut` (so `ecs_iter_destroy!` only
removes).  These are the operations whose labels are creations / removals / clears (CDC: create,
destroy, clear; `Lbl.isCDC`), the paths C04's conservation theorem is stated for. -/
def Op.IsCDC : Op α → Prop
  | .create _ _ _ => True
  | .createWithin _ _ => True
  | .destroy _ => True
  | .clearEvents _ => True
  | .write _ _ _ => False
  | .cloneSwitch _ => False
  | .iter q _ _ _ => ∀ qa ∈ q, ∀ c, Param.comp c true ∉ qa.params
  | .iterDestroy q _ _ _ => ∀ qa ∈ q, ∀ c, Param.comp c true ∉ qa.params
  | .find q _ _ _ _ => ∀ qa ∈ q, ∀ c, Param.comp c true ∉ qa.params

theorem OpsEmit.cdc {a : Nat} {ops : List (Op α)} {L : List (Lbl α)}
    (hcdc : ∀ op ∈ ops, op.IsCDC) (h : OpsEmit a ops L) : ∀ l ∈ L, l.isCDC = true := by
  intro l hl
  obtain ⟨op, hop, hem⟩ := h.mem l hl
  have hc := hcdc op hop
  cases l with
  | created | destroyed | clear => rfl
  | write d c x =>
    -- `.write` comes from a cell write (not `IsCDC`) or from a column some query binds `&mut`
    cases op <;> first | exact hem.elim | exact hc.elim | skip
    all_goals
      obtain ⟨qa, hqa, _, hp⟩ := hem
      exact absurd hp (hc qa hqa c)
  | clone cl => cases op <;> first | exact hem.elim | exact hc.elim

/-- A history without `clear_events` emits no `.clear` label. -/
theorem OpsEmit.noClear {a : Nat} {ops : List (Op α)} {L : List (Lbl α)}
    (hnc : ∀ oa, Op.clearEvents oa ∉ ops) (h : OpsEmit a ops L) : hasClear L = false := by
  unfold hasClear
  rw [List.any_eq_false]
  intro l hl
  obtain ⟨op, hop, hem⟩ := h.mem l hl
  cases l with
  | clear => cases op <;> first | exact hem.elim | exact absurd hop (hnc _)
  | _ => simp [Lbl.isClear]

/-! ## The four properties, for every archetype of the world reached by any history

Hypotheses throughout: `WInv cfg w`, `CfgOk cfg`, `OpsOk cfg ops`, `OpsScoped w.sch ops` (those of
`run_inv`); the history is arbitrary otherwise (forged / stale / foreign handle words, arbitrary
closures, panicking operations included).  Conclusions: the history runs (`run … = some w'`,
never `ub`), and for EVERY archetype index `a`, with `s` / `s'` the storages of the initial /
final world, there is a labelled path `L` from `s` to `s'`, made of the labels emitted in order
by the operations (`OpsEmit a ops L`), for which the per-storage theorem's conclusion holds.
`run_each_archetype` is this shape, stated once; C17, C02, C04 and the fresh-world form are
instances of it. -/

/-- From one storage to the world: a statement `C` about a storage, its successor and the labelled
path between them — proved for every path from an `Inv` state whose labels the history emits, with
full rows — holds for every archetype of the world every history runs to. -/
theorem run_each_archetype {cfg : Cfg} {w : World α} {ops : List (Op α)} (hw : WInv cfg w)
    (hc : CfgOk cfg) (ho : OpsOk cfg ops) (hs : OpsScoped w.sch ops)
    {C : Nat → Storage α → Storage α → List (Lbl α) → Prop}
    (h : ∀ a s s' L, w.archs[a]? = some s → Inv cfg s → LReach cfg s L s' → OpsEmit a ops L →
      RowsOk s.cols.length L → C a s s' L) :
    ∃ w', run cfg w ops = some w' ∧ WInv cfg w'
      ∧ ∀ (a : Nat) (s s' : Storage α), w.archs[a]? = some s → w'.archs[a]? = some s' →
        ∃ L, LReach cfg s L s' ∧ OpsEmit a ops L ∧ C a s s' L := by
  obtain ⟨w', h1, h2, _, h3⟩ := run_labelled_emits hw hc ho hs
  refine ⟨w', h1, h2, fun a s s' g g' => ?_⟩
  obtain ⟨L, r, he⟩ := h3 a s s' g g'
  exact ⟨L, r, he, h a s s' L g (hw.get g) r he (he.rowsOk hs (World.sch_of_get g))⟩

/-- C17 for all histories.  Whatever the initial logs: with the feature on, the two logs of
every archetype are the fold of its labels over the initial logs (`C17_logs`); if the labels
contain a `clear_events`, the logs are exactly the handles created / removed since the last
one, in order (`C17_since_clear`); with the feature off nothing is ever logged
(`C17_feature_off`). -/
theorem C17_all_histories {cfg : Cfg} {w : World α} {ops : List (Op α)} (hw : WInv cfg w)
    (hc : CfgOk cfg) (ho : OpsOk cfg ops) (hs : OpsScoped w.sch ops) :
    ∃ w', run cfg w ops = some w' ∧ WInv cfg w'
      ∧ ∀ (a : Nat) (s s' : Storage α), w.archs[a]? = some s → w'.archs[a]? = some s' →
        ∃ L, LReach cfg s L s' ∧ OpsEmit a ops L
          ∧ (cfg.events = true →
              s'.created = logC s.created L ∧ s'.destroyed = logD s.destroyed L)
          ∧ (cfg.events = true → ∀ L₁ L₂, L = L₁ ++ [.clear] ++ L₂ → hasClear L₂ = false →
              s'.created = createdOf L₂ ∧ s'.destroyed = destroyedOf L₂)
          ∧ (cfg.events = false →
              s'.created = (if hasClear L then [] else s.created)
              ∧ s'.destroyed = (if hasClear L then [] else s.destroyed)) := by
  refine run_each_archetype hw hc ho hs fun _ _ _ _ _ _ r _ _ =>
    ⟨fun hev => C17_logs hev r, ?_, fun hev => C17_feature_off hev r⟩
  intro hev L₁ L₂ hL hnc
  subst hL
  exact C17_since_clear hev hnc r

/-- `clear_events`, of the whole world or of archetype `a` alone, leaves both logs of `a` empty. -/
theorem run_clearEvents_logs {cfg : Cfg} {w w' : World α} {oa : Option Nat}
    (h : run cfg w [.clearEvents oa] = some w') {a : Nat} (hoa : oa = none ∨ oa = some a)
    {s' : Storage α} (g : w'.archs[a]? = some s') : s'.created = [] ∧ s'.destroyed = [] := by
  rcases hoa with rfl | rfl
  · simp only [run, stepOp, Option.some.injEq] at h
    subst h
    simp only [World.clearEvents, List.getElem?_map, Option.map_eq_some_iff] at g
    obtain ⟨s, _, rfl⟩ := g
    exact ⟨rfl, rfl⟩
  · cases g0 : w.archs[a]? with
    | none =>
      simp only [run, stepOp, g0, Option.some.injEq] at h
      subst h; rw [g0] at g; cases g
    | some s =>
      simp only [run, stepOp, g0, Option.some.injEq] at h
      subst h
      rw [World.setArch_get_self _ (List.getElem?_eq_some_iff.mp g0).1] at g
      cases g; exact ⟨rfl, rfl⟩

/-- C17 at the level of operations: after ANY history `ops₁`, a `clear_events` (of the whole
world, or of archetype `a` alone) and ANY history `ops₂` without `clear_events`, the created /
destroyed logs of archetype `a` are exactly the handles created in / removed from `a` by
`ops₂`, in order: `L₂` is the label path of `ops₂` alone, from the world `w₁` as it was just
after the clear. -/
theorem C17_since_last_clear {cfg : Cfg} {w : World α} {ops₁ ops₂ : List (Op α)}
    {oa : Option Nat} (hev : cfg.events = true) (hw : WInv cfg w) (hc : CfgOk cfg)
    (ho : OpsOk cfg (ops₁ ++ .clearEvents oa :: ops₂))
    (hs : OpsScoped w.sch (ops₁ ++ .clearEvents oa :: ops₂))
    (hnc : ∀ ob, Op.clearEvents ob ∉ ops₂) :
    ∃ w₁ w', run cfg w (ops₁ ++ [.clearEvents oa]) = some w₁ ∧ run cfg w₁ ops₂ = some w'
      ∧ run cfg w (ops₁ ++ .clearEvents oa :: ops₂) = some w' ∧ WInv cfg w'
      ∧ ∀ (a : Nat) (s₁ s' : Storage α), (oa = none ∨ oa = some a) →
          w₁.archs[a]? = some s₁ → w'.archs[a]? = some s' →
          ∃ L₂, LReach cfg s₁ L₂ s' ∧ OpsEmit a ops₂ L₂ ∧ hasClear L₂ = false
            ∧ s'.created = createdOf L₂ ∧ s'.destroyed = destroyedOf L₂ := by
  rw [List.append_cons ops₁ (.clearEvents oa) ops₂] at ho hs ⊢
  obtain ⟨w₁, w', r1, r2, r3, rel1, rel2⟩ := run_prefix hw ho hs
  obtain ⟨w'', q1, _, q3⟩ := run_emits hc ops₂ w₁ rel1.winv (OpsOk_append.mp ho).2
    (rel1.sch_eq ▸ (OpsScoped_append.mp hs).2)
  rw [r2] at q1; cases q1
  refine ⟨w₁, w', r1, r2, r3, rel2.winv, fun a s₁ s' hoa g g' => ?_⟩
  -- `w₁` is what `clear_events` made of the world `ops₁` ran to: the logs of `a` are empty there
  obtain ⟨w₀, _, p⟩ := Option.bind_eq_some_iff.mp (run_append cfg w ops₁ _ ▸ r1)
  obtain ⟨hcr, hde⟩ := run_clearEvents_logs p hoa g
  obtain ⟨L₂, r, he⟩ := q3 a s₁ s' g g'
  have hncL := he.noClear hnc
  obtain ⟨e1, e2⟩ := logs_noclear hev hncL r
  rw [hcr, List.nil_append] at e1
  rw [hde, List.nil_append] at e2
  exact ⟨L₂, r, he, hncL, e1, e2⟩

/-- C02 for all histories: in every archetype of the final world, the values of every entity —
and what every read of a resolved handle returns — are what the fold of that archetype's labels
over the initial (entity ↦ row) view says (`C02_refinement`, `C02_read_after_history`).
`RowsOk` (needed by the per-storage theorems) is a consequence of `OpsScoped`. -/
theorem C02_all_histories {cfg : Cfg} {w : World α} {ops : List (Op α)} (hw : WInv cfg w)
    (hc : CfgOk cfg) (ho : OpsOk cfg ops) (hs : OpsScoped w.sch ops) :
    ∃ w', run cfg w ops = some w' ∧ WInv cfg w'
      ∧ ∀ (a : Nat) (s s' : Storage α), w.archs[a]? = some s → w'.archs[a]? = some s' →
        ∃ L, LReach cfg s L s' ∧ OpsEmit a ops L ∧ RowsOk s.cols.length L
          ∧ (∀ e, valueOf s' e = (L.foldl applyLbl (view s)).lookup e)
          ∧ (∀ (e : Ent) (si d : Nat) (s₁ : Storage α),
              resolveEntity cfg s' e = .ok (some (si, d)) s₁ →
              readRow s' d = (L.foldl applyLbl (view s)).lookup e) :=
  run_each_archetype hw hc ho hs fun _ _ _ _ _ hi r _ hr =>
    ⟨hr, fun e => C02_refinement hi hr r e,
      fun _ _ _ _ hres => C02_read_after_history hi hr r hres⟩

/-- C02 through the world API: after any history, whatever `view` / `borrow` / `ecs_find!`
hands out — through ANY route and key kind — is an entity `e` of some archetype `a` together
with the row the label history of that archetype assigns to `e`. -/
theorem C02_fetch_all_histories {cfg : Cfg} {w : World α} {ops : List (Op α)} (hw : WInv cfg w)
    (hc : CfgOk cfg) (ho : OpsOk cfg ops) (hs : OpsScoped w.sch ops) :
    ∃ w', run cfg w ops = some w' ∧ WInv cfg w'
      ∧ ∀ (r : Route) (direct : Bool) (d : Nat) (e : Ent) (row : List α) (w'' : World α),
          w'.fetch cfg r direct = .ok (some (d, e, row)) w'' →
          w'' = w' ∧ ∃ a k s s' L, r = .arch a k ∧ w.archs[a]? = some s ∧ w'.archs[a]? = some s'
            ∧ LReach cfg s L s' ∧ OpsEmit a ops L ∧ s'.ents[d]? = some e
            ∧ (L.foldl applyLbl (view s)).lookup e = some row := by
  obtain ⟨w', h1, h2, h3⟩ := run_emits hc ops w hw ho hs
  refine ⟨w', h1, h2.winv, ?_⟩
  intro r direct d e row w'' hf
  obtain ⟨e1, a, k, s', e2, g', hd, hrow, _⟩ := fetch_ok h2.winv hf
  obtain ⟨s, g⟩ := getElem?_some_of_length_eq h2.len.symm g'
  obtain ⟨L, rch, he⟩ := h3 a s s' g g'
  have hi := hw.get g
  have hr : RowsOk s.cols.length L := he.rowsOk hs (World.sch_of_get g)
  refine ⟨e1, a, k, s, s', L, e2, g, g', rch, he, hd, ?_⟩
  rw [← C02_refinement hi hr rch e, ← C02_read_paths (h2.winv.get g') hd, hrow]

/-- C04 for all histories that neither overwrite nor clone (`Op.IsCDC`; the per-storage
conservation theorem is stated for exactly these label paths): in every archetype, everything
that was in the storage or was moved in by a creation is either still owned or was handed back
by exactly one removal (`C04_conservation`); dropping the archetype drops exactly the rest
(`C04_dropped_exactly_once`); with pairwise distinct values nothing is owned or handed back
twice, nor handed back while its entity is alive (`C04_no_double_no_live_drop`). -/
theorem C04_all_histories {cfg : Cfg} {w : World α} {ops : List (Op α)} (hw : WInv cfg w)
    (hc : CfgOk cfg) (ho : OpsOk cfg ops) (hs : OpsScoped w.sch ops)
    (hcdc : ∀ op ∈ ops, op.IsCDC) :
    ∃ w', run cfg w ops = some w' ∧ WInv cfg w'
      ∧ ∀ (a : Nat) (s s' : Storage α), w.archs[a]? = some s → w'.archs[a]? = some s' →
        ∃ L, LReach cfg s L s' ∧ OpsEmit a ops L ∧ RowsOk s.cols.length L
          ∧ (∀ l ∈ L, l.isCDC = true)
          ∧ (owned s' ++ destroyedRows L).Perm (owned s ++ createdRows L)
          ∧ (∃ dropped, dropStorage s' = .ok dropped ()
              ∧ (dropped ++ destroyedRows L).Perm (owned s ++ createdRows L))
          ∧ ((owned s ++ createdRows L).Nodup →
              (owned s').Nodup ∧ (destroyedRows L).Nodup ∧ (∀ x ∈ destroyedRows L, x ∉ owned s')
              ∧ (∀ e row, valueOf s' e = some row → ∀ x ∈ row, x ∉ destroyedRows L)) :=
  run_each_archetype hw hc ho hs fun _ _ _ _ _ hi r he hr =>
    have hl := he.cdc hcdc
    ⟨hr, hl, C04_conservation hr hl r, C04_dropped_exactly_once hi hr hl r,
      fun hnd => C04_no_double_no_live_drop hr hl r hnd⟩

/-- C13 for all histories: cloning the world reached by any history succeeds (no panic, no
`ub`); the clone satisfies `WInv`, has the same ids and archetypes, and EVERY archetype of the
clone is `cloneStorage` of the corresponding archetype, hence has identical fields
(`C13_identical_fields`), answers every lookup identically (`C13_identical_lookups`) and shows
equal values under every observation that `Clone` preserves (`C13_equal_values`). -/
theorem C13_all_histories {cfg : Cfg} {w : World α} {ops : List (Op α)} (hw : WInv cfg w)
    (hc : CfgOk cfg) (ho : OpsOk cfg ops) (hs : OpsScoped w.sch ops) (cl : α → α) :
    ∃ w' wc, run cfg w ops = some w' ∧ WInv cfg w' ∧ w'.clone cl = .ok wc () ∧ WInv cfg wc
      ∧ wc.ids = w'.ids ∧ wc.archs.length = w'.archs.length
      ∧ ∀ (a : Nat) (s' : Storage α), w'.archs[a]? = some s' →
        ∃ sc, wc.archs[a]? = some sc ∧ cloneStorage cl s' = .ok sc s'
          -- C13_identical_fields
          ∧ (sc.ents = s'.ents ∧ sc.slots = s'.slots ∧ sc.len = s'.len
              ∧ sc.capacity = s'.capacity ∧ sc.version = s'.version ∧ sc.freeHead = s'.freeHead
              ∧ sc.created = s'.created ∧ sc.destroyed = s'.destroyed
              ∧ (∀ d, rowAt sc d = (rowAt s' d).map cl))
          -- C13_identical_lookups
          ∧ (Inv cfg sc
              ∧ (∀ e, resolveEntity cfg sc e = (resolveEntity cfg s' e).withState sc)
              ∧ (∀ d v, resolveDirect cfg sc d v = (resolveDirect cfg s' d v).withState sc)
              ∧ (∀ e, valueOf sc e = (valueOf s' e).map (·.map cl))
              ∧ (∀ d, readRow sc d = (readRow s' d).map (·.map cl)))
          -- C13_equal_values
          ∧ (∀ {β : Type} (obs : α → β), (∀ x, obs (cl x) = obs x) → ∀ e,
              (valueOf sc e).map (·.map obs) = (valueOf s' e).map (·.map obs)) := by
  obtain ⟨w', h1, r⟩ := run_rel ops w hw ho hs
  have h2 := r.winv
  have hrel := World.clone_rel h2 cl
  refine ⟨w', _, h1, h2, World.clone_spec h2 cl, hrel.winv, hrel.ids, hrel.len, fun a s' g' => ?_⟩
  have hi := h2.get g'
  have hcl : cloneStorage cl s' = .ok { s' with cols := s'.cols.map (·.map cl) } s' :=
    cloneStorage_spec hi
  exact ⟨_, by rw [List.getElem?_map, g']; rfl, hcl, (C13_identical_fields hi hcl).2,
    C13_identical_lookups hi hcl, fun obs hobs e => C13_equal_values hi hcl obs hobs e⟩

/-! ### From a fresh world

The theorems above start from any world satisfying `WInv`, with arbitrary contents and logs.
From a world fresh from `World::with_capacity` (no entity, empty logs) the initial view, the
initially owned values and the initial logs are empty, so the conclusions read "since the world
was created" — with ONE label path per archetype for the three properties. -/

/-- C02 / C04 / C17 for all histories of a world that starts empty (every archetype has no
entity and empty logs, as after `World::with_capacity`, see `withCapacity_all_histories`). -/
theorem fresh_all_histories {cfg : Cfg} {w : World α} {ops : List (Op α)} (hw : WInv cfg w)
    (hc : CfgOk cfg) (ho : OpsOk cfg ops) (hs : OpsScoped w.sch ops)
    (hf : ∀ s ∈ w.archs, s.len = 0 ∧ s.created = [] ∧ s.destroyed = []) :
    ∃ w', run cfg w ops = some w' ∧ WInv cfg w'
      ∧ ∀ (a : Nat) (s s' : Storage α), w.archs[a]? = some s → w'.archs[a]? = some s' →
        ∃ L, LReach cfg s L s' ∧ OpsEmit a ops L ∧ RowsOk s.cols.length L
          -- C02: the values are those written by the history
          ∧ (∀ e, valueOf s' e = (L.foldl applyLbl []).lookup e)
          -- C17: the logs are those of the history
          ∧ (cfg.events = true → s'.created = logC [] L ∧ s'.destroyed = logD [] L)
          ∧ (cfg.events = true → hasClear L = false →
              s'.created = createdOf L ∧ s'.destroyed = destroyedOf L)
          -- C04: everything moved in is still owned (and dropped with the world) or was handed
          -- back exactly once
          ∧ ((∀ op ∈ ops, op.IsCDC) →
              (owned s' ++ destroyedRows L).Perm (createdRows L)
              ∧ ∃ dropped, dropStorage s' = .ok dropped ()
                  ∧ (dropped ++ destroyedRows L).Perm (createdRows L)) := by
  refine run_each_archetype hw hc ho hs fun a s s' L g hi r he hr => ?_
  obtain ⟨h0, hcr, hde⟩ := hf s (List.mem_of_getElem? g)
  refine ⟨hr, ?_, ?_, ?_, ?_⟩
  · intro e
    rw [C02_refinement hi hr r e, view_of_len_zero hi h0]
  · intro hev
    have := C17_logs hev r
    rw [hcr, hde] at this; exact this
  · intro hev hnc
    have := logs_noclear hev hnc r
    rw [hcr, hde, List.nil_append, List.nil_append] at this; exact this
  · intro hcdc
    have hl := he.cdc hcdc
    have e1 := C04_conservation hr hl r
    obtain ⟨dropped, e2, e3⟩ := C04_dropped_exactly_once hi hr hl r
    rw [owned_of_len_zero hi h0, List.nil_append] at e1 e3
    exact ⟨e1, dropped, e2, e3⟩

/-- `fresh_all_histories` instantiated at `World::with_capacity`: for every admissible declaration
(`ids`, column counts `ncols`, capacities `caps`) the world is created, every finite history
scoped by the declaration runs on it, and the conclusions of `fresh_all_histories` hold. -/
theorem withCapacity_all_histories (cfg : Cfg) (ids ncols caps : List Nat) {ops : List (Op α)}
    (hnd : ids.Nodup) (hlt : ∀ i ∈ ids, i < ID_RANGE) (hl1 : ids.length = ncols.length)
    (hl2 : ncols.length = caps.length) (hcap : ∀ c ∈ caps, c ≤ cfg.maxCap) (hc : CfgOk cfg)
    (ho : OpsOk cfg ops) (hs : OpsScoped ncols ops) :
    ∃ w w', World.withCapacity cfg ids ncols caps = .ok () w ∧ run cfg w ops = some w'
      ∧ WInv cfg w'
      ∧ ∀ (a : Nat) (s s' : Storage α), w.archs[a]? = some s → w'.archs[a]? = some s' →
        ∃ L, LReach cfg s L s' ∧ OpsEmit a ops L ∧ RowsOk s.cols.length L
          ∧ (∀ e, valueOf s' e = (L.foldl applyLbl []).lookup e)
          ∧ (cfg.events = true → s'.created = logC [] L ∧ s'.destroyed = logD [] L)
          ∧ (cfg.events = true → hasClear L = false →
              s'.created = createdOf L ∧ s'.destroyed = destroyedOf L)
          ∧ ((∀ op ∈ ops, op.IsCDC) →
              (owned s' ++ destroyedRows L).Perm (createdRows L)
              ∧ ∃ dropped, dropStorage s' = .ok dropped ()
                  ∧ (dropped ++ destroyedRows L).Perm (createdRows L)) := by
  obtain ⟨w, g1, g2, _, g4, _, g6, g7⟩ :=
    World.withCapacity_winv (α := α) cfg ids ncols caps hnd hlt hl1 hl2 hcap hc
  obtain ⟨w', h1, h2, h3⟩ :=
    fresh_all_histories g2 hc ho (g6 ▸ hs) (fun s hm => ⟨g4 s hm, (g7 s hm).2.1, (g7 s hm).2.2⟩)
  exact ⟨w, w', g1, h1, h2, h3⟩

namespace WorldEx
open StorageEx

/-- First part of `histCDC`: a creation and a `create_within_capacity` that archetype 1 (capacity 0)
refuses. -/
def histCDC₁ : List (Op Nat) :=
  [ .create 0 [10, 20] (codeGrowth cfgEx), .createWithin 1 [5] ]

/-- Second part of `histCDC`: two creations, a removal by a dynamic key and an `ecs_iter_destroy!`
(binding its column by `&`) whose closure removes the entity whose first component is `11`. -/
def histCDC₂ : List (Op Nat) :=
  [ .create 0 [11, 21] (codeGrowth cfgEx),
    .create 0 [12, 22] (codeGrowth cfgEx),
    .destroy ⟨true, false, ⟨.any, 0, mkKey 0 3 1⟩, none⟩,
    .iterDestroy [⟨0, [.comp 0 false]⟩] Nat
      (fun st args => match args with
        | [.comp _ 11] => .ret (st + 1) [] .contDestroy
        | _ => .ret st [] .cont) 0 ]

/-- A history on `wEx` that neither overwrites nor clones, with a `clear_events` in the middle. -/
def histCDC : List (Op Nat) := histCDC₁ ++ .clearEvents none :: histCDC₂

-- the history evaluates: (len, handles, columns, created log, destroyed log) per archetype
example : (run cfgEx wEx histCDC).map
      (fun w => w.archs.map (fun s => (s.len, s.ents, s.cols, s.created, s.destroyed)))
    = some [(1, [⟨2, 1⟩], [[12], [22]], [⟨1, 1⟩, ⟨2, 1⟩], [⟨0, 1⟩, ⟨1, 1⟩]),
            (0, [], [[]], [], [])] := rfl

theorem histCDC_ok : OpsOk cfgEx histCDC := by
  have hg : GrowOk cfgEx (codeGrowth cfgEx) := codeGrowth_ok cfgEx
  exact ⟨hg, hg, hg, trivial⟩

theorem histCDC_scoped : OpsScoped wEx.sch histCDC := by
  unfold histCDC histCDC₁ histCDC₂
  simp only [List.cons_append, List.nil_append, OpsScoped_cons]
  exact ⟨rfl, rfl, trivial, rfl, rfl, KeyUse.scoped_of_untyped rfl,
    List.forall_mem_singleton.mpr (by decide : 0 < 2), fun _ h => nomatch h⟩

theorem histCDC_cdc : ∀ op ∈ histCDC, op.IsCDC := by
  unfold histCDC histCDC₁ histCDC₂
  simp only [List.cons_append, List.nil_append, List.forall_mem_cons]
  exact ⟨trivial, trivial, trivial, trivial, trivial, trivial,
    List.forall_mem_singleton.mpr fun c hc => by simp at hc, fun _ h => nomatch h⟩

theorem histCDC₂_noClear : ∀ ob, Op.clearEvents ob ∉ histCDC₂ := by
  intro ob h
  simp only [histCDC₂, List.mem_cons, List.not_mem_nil, reduceCtorEq, or_self] at h

/-- `run_labelled_emits` on the example history of Lemmas/StepRun.lean (creates, a refused
create, `ecs_iter!`, `ecs_find!`, removals by live / stale / forged keys, a panicking
`ecs_iter_destroy!` closure, clone, `clear_events`). -/
example : ∃ w', run cfgEx wEx histEx = some w'
    ∧ ∀ (a : Nat) (s s' : Storage Nat), wEx.archs[a]? = some s → w'.archs[a]? = some s' →
        ∃ L, LReach cfgEx s L s' ∧ OpsEmit a histEx L := by
  obtain ⟨w', h1, _, _, h3⟩ :=
    run_labelled_emits wEx_inv cfgEx_ok histEx_ok histEx_scoped
  exact ⟨w', h1, h3⟩

/-- C17 on `histEx` (`cfgEx` has the `events` feature on; the initial logs of `wEx` are empty,
but the theorem does not need that). -/
example : ∃ w', run cfgEx wEx histEx = some w'
    ∧ ∀ (a : Nat) (s s' : Storage Nat), wEx.archs[a]? = some s → w'.archs[a]? = some s' →
        ∃ L, LReach cfgEx s L s' ∧ OpsEmit a histEx L
          ∧ s'.created = logC s.created L ∧ s'.destroyed = logD s.destroyed L := by
  obtain ⟨w', h1, _, h3⟩ :=
    C17_all_histories wEx_inv cfgEx_ok histEx_ok histEx_scoped
  refine ⟨w', h1, fun a s s' g g' => ?_⟩
  obtain ⟨L, r, he, hl, _⟩ := h3 a s s' g g'
  exact ⟨L, r, he, hl rfl⟩

/-- C17 "since the last clear" on `histCDC = histCDC₁ ++ clear_events :: histCDC₂`. -/
example : ∃ w₁ w', run cfgEx wEx (histCDC₁ ++ [.clearEvents none]) = some w₁
    ∧ run cfgEx w₁ histCDC₂ = some w' ∧ run cfgEx wEx histCDC = some w'
    ∧ ∀ (a : Nat) (s₁ s' : Storage Nat), w₁.archs[a]? = some s₁ → w'.archs[a]? = some s' →
        ∃ L₂, LReach cfgEx s₁ L₂ s' ∧ OpsEmit a histCDC₂ L₂
          ∧ s'.created = createdOf L₂ ∧ s'.destroyed = destroyedOf L₂ := by
  obtain ⟨w₁, w', h1, h2, h3, _, h5⟩ :=
    C17_since_last_clear (oa := none) rfl wEx_inv cfgEx_ok
      histCDC_ok histCDC_scoped histCDC₂_noClear
  refine ⟨w₁, w', h1, h2, h3, fun a s₁ s' g g' => ?_⟩
  obtain ⟨L₂, r, he, _, e1, e2⟩ := h5 a s₁ s' (.inl rfl) g g'
  exact ⟨L₂, r, he, e1, e2⟩

/-- C02 on `histEx` (writes through `ecs_iter!`, `ecs_find!`, a typed direct key; removals with
relocation; clone). -/
example : ∃ w', run cfgEx wEx histEx = some w'
    ∧ ∀ (a : Nat) (s s' : Storage Nat), wEx.archs[a]? = some s → w'.archs[a]? = some s' →
        ∃ L, LReach cfgEx s L s' ∧ OpsEmit a histEx L ∧ RowsOk s.cols.length L
          ∧ ∀ e, valueOf s' e = (L.foldl applyLbl (view s)).lookup e := by
  obtain ⟨w', h1, _, h3⟩ :=
    C02_all_histories wEx_inv cfgEx_ok histEx_ok histEx_scoped
  refine ⟨w', h1, fun a s s' g g' => ?_⟩
  obtain ⟨L, r, he, hr, hv, _⟩ := h3 a s s' g g'
  exact ⟨L, r, he, hr, hv⟩

/-- C02 through the world API on `histEx`: the surviving entity `(2, 1)` of archetype 0 is
fetched with its latest values. -/
example : ∃ w', run cfgEx wEx histEx = some w'
    ∧ w'.fetch cfgEx (.arch 0 (mkKey 2 3 1)) false = .ok (some (0, ⟨2, 1⟩, [93, 56])) w'
    ∧ ∃ s s' L, wEx.archs[0]? = some s ∧ w'.archs[0]? = some s' ∧ LReach cfgEx s L s'
        ∧ OpsEmit 0 histEx L ∧ (L.foldl applyLbl (view s)).lookup ⟨2, 1⟩ = some [93, 56] := by
  obtain ⟨w', h1, _, h3⟩ :=
    C02_fetch_all_histories wEx_inv cfgEx_ok histEx_ok histEx_scoped
  -- evaluate `fetch` on the final world written out (`histExEnd`), not on the unevaluated run
  cases Option.some.inj (histEx_run.symm.trans h1)
  have hf : histExEnd.fetch cfgEx (.arch 0 (mkKey 2 3 1)) false
      = .ok (some (0, ⟨2, 1⟩, [93, 56])) histExEnd := rfl
  obtain ⟨_, a, k, s, s', L, e2, g, g', r, he, _, hl⟩ := h3 _ _ _ _ _ _ hf
  cases e2
  exact ⟨_, h1, hf, s, s', L, g, g', r, he, hl⟩

/-- C04 on `histCDC` (`histEx` overwrites and clones, so it is outside the scope of the
conservation theorem; `histCDC` creates, removes by key and by `ecs_iter_destroy!`, clears). -/
example : ∃ w', run cfgEx wEx histCDC = some w'
    ∧ ∀ (a : Nat) (s s' : Storage Nat), wEx.archs[a]? = some s → w'.archs[a]? = some s' →
        ∃ L, LReach cfgEx s L s' ∧ OpsEmit a histCDC L
          ∧ (owned s' ++ destroyedRows L).Perm (owned s ++ createdRows L)
          ∧ ∃ dropped, dropStorage s' = .ok dropped ()
              ∧ (dropped ++ destroyedRows L).Perm (owned s ++ createdRows L) := by
  obtain ⟨w', h1, _, h3⟩ := C04_all_histories wEx_inv cfgEx_ok histCDC_ok histCDC_scoped histCDC_cdc
  refine ⟨w', h1, fun a s s' g g' => ?_⟩
  obtain ⟨L, r, he, _, _, hp, hd, _⟩ := h3 a s s' g g'
  exact ⟨L, r, he, hp, hd⟩

/-- C13 on `histEx`: the world it reaches can be cloned, every archetype identically. -/
example : ∃ w' wc, run cfgEx wEx histEx = some w' ∧ w'.clone (· + 100) = .ok wc ()
    ∧ WInv cfgEx wc
    ∧ ∀ (a : Nat) (s' : Storage Nat), w'.archs[a]? = some s' →
        ∃ sc, wc.archs[a]? = some sc ∧ sc.ents = s'.ents ∧ sc.version = s'.version
          ∧ ∀ e, valueOf sc e = (valueOf s' e).map (·.map (· + 100)) := by
  obtain ⟨w', wc, h1, _, h3, h4, _, _, h7⟩ :=
    C13_all_histories wEx_inv cfgEx_ok histEx_ok histEx_scoped (· + 100)
  refine ⟨w', wc, h1, h3, h4, fun a s' g' => ?_⟩
  obtain ⟨sc, g1, _, hf, hl, _⟩ := h7 a s' g'
  exact ⟨sc, g1, hf.1, hf.2.2.2.2.1, hl.2.2.2.1⟩

/-- From `World::with_capacity`: `wEx` IS the world created by `with_capacity` for ids `[3, 7]`,
column counts `[2, 1]`, capacities `[2, 0]` (`wEx_eq`), and `histCDC` is scoped by `[2, 1]`. -/
example : ∃ w w', World.withCapacity cfgEx [3, 7] [2, 1] [2, 0] = .ok () w
    ∧ run cfgEx w histCDC = some w'
    ∧ ∀ (a : Nat) (s s' : Storage Nat), w.archs[a]? = some s → w'.archs[a]? = some s' →
        ∃ L, LReach cfgEx s L s' ∧ OpsEmit a histCDC L
          ∧ (∀ e, valueOf s' e = (L.foldl applyLbl []).lookup e)
          ∧ s'.created = logC [] L
          ∧ (owned s' ++ destroyedRows L).Perm (createdRows L) := by
  obtain ⟨w, w', h1, h2, _, h4⟩ :=
    withCapacity_all_histories cfgEx [3, 7] [2, 1] [2, 0] (by decide) (by decide) rfl rfl
      (by decide) cfgEx_ok histCDC_ok histCDC_scoped
  refine ⟨w, w', h1, h2, fun a s s' g g' => ?_⟩
  obtain ⟨L, r, he, _, hv, hl, _, ho⟩ := h4 a s s' g g'
  exact ⟨L, r, he, hv, (hl rfl).1, (ho histCDC_cdc).1⟩

end WorldEx
end Gecs

section
open Gecs
#print axioms LReach.trans
#print axioms iterLoop_lsat
#print axioms destroyLoop_lsat
#print axioms iterQuery_lsat
#print axioms iterDestroyQuery_lsat
#print axioms findQuery_lsat
#print axioms stepOp_emits
#print axioms run_emits
#print axioms run_labelled_emits
#print axioms OpsEmit.mem
#print axioms OpsEmit.rowsOk
#print axioms OpsEmit.cdc
#print axioms OpsEmit.noClear
#print axioms C17_all_histories
#print axioms C17_since_last_clear
#print axioms C02_all_histories
#print axioms C02_fetch_all_histories
#print axioms C04_all_histories
#print axioms C13_all_histories
#print axioms fresh_all_histories
#print axioms withCapacity_all_histories
end
