/-
C08 — No handle is ever issued twice within a world.
Models: Gecs/Model/Storage.lean (`forceCreate`/`push`/`pushWithin` = storage.rs
`StorageN::force_create`/`push`/`push_within_capacity`: the returned handle is (head of the
free list, that slot's generation); `forceDestroy` = `force_destroy`: the slot generation and
the archetype version are advanced with `nextVer` = version.rs `SlotVersion::next` /
`ArchetypeVersion::next`, checked or wrapping), Gecs/Model/World.lean (`mkKey` = entity.rs
`(index << 8) | ARCHETYPE_ID`; `World.create` = the generated `World::create::<A>`) and
Gecs/Model/History.lean (`run`).  Tied to the Rust code by the `create`/`destroy` lines of
harness/rt (every returned handle is compared word for word).

A handle of archetype `a` "has been issued" at a point of a history iff it has been in the
dense array `ents` of `a`'s storage at some earlier point (a handle enters `ents` only as the
return value of a create).  All statements are for NON-wrapping generations
(`cfg.wrapping = false`); with the feature `wrapping_version` the property is false by design
(`C08_wrapping_is_the_documented_exception`).  Histories are arbitrary (`run cfg w₀ ops`, any
length, forged handles, arbitrary closures, continuing after panics), hypotheses as in
Props/C01.lean.
-/
import Gecs.Lemmas.CheckSound
import Gecs.Lemmas.WorldHistory
import Gecs.Lemmas.GenTie

-- OBLIGATIONS: Gecs.C08_new_handles_are_fresh Gecs.C08_unique_within_archetype
-- OBLIGATIONS: Gecs.C08_created_handle_is_new Gecs.C08_create_returns_unissued
-- OBLIGATIONS: Gecs.C08_never_issued_twice
-- OBLIGATIONS: Gecs.C08_createWithin_returns_unissued Gecs.C08_unique_across_archetypes
-- OBLIGATIONS: Gecs.C08_overflow_panics_instead_of_reissuing
-- OBLIGATIONS: Gecs.C08_wrapping_is_the_documented_exception
-- OBLIGATIONS: Gecs.gen_version_max Gecs.gen_version_start Gecs.gen_id_range
-- OBLIGATIONS: Gecs.invCheck_iff

namespace Gecs
variable {α : Type}

/-- Storage level, with the ghost set `seen` of all handles issued so far (`HInv`): along any
path of atomic steps, every handle that is stored at the end and was not stored at the
beginning is NEW — it has never been seen. -/
theorem C08_new_handles_are_fresh {cfg : Cfg} (hw : cfg.wrapping = false) {s s' : Storage α}
    {seen : List Ent} (h : HInv cfg s seen) (hr : SReach cfg s s') :
    ∀ e ∈ s'.ents, e ∉ s.ents → e ∉ seen :=
  fun e he hn hs => no_resurrection hw h hr e hs hn he

/-- World level, three points of a history `w₀ —ops₁→ w₁ —ops₂→ w₂`: a handle that was in
archetype `a`'s dense array at `w₀` and is not at `w₁` is not in it at `w₂`: whatever has been
created during `ops₂` differs from it. -/
theorem C08_unique_within_archetype {cfg : Cfg} (hw : cfg.wrapping = false)
    {w₀ w₁ w₂ : World α} {ops₁ ops₂ : List (Op α)}
    (hw₀ : WInv cfg w₀) (hc : CfgOk cfg) (ho : OpsOk cfg (ops₁ ++ ops₂))
    (hs : OpsScoped w₀.sch (ops₁ ++ ops₂))
    (h₁ : run cfg w₀ ops₁ = some w₁) (h₂ : run cfg w₁ ops₂ = some w₂)
    {a : Nat} {s₀ s₁ s₂ : Storage α} (g₀ : w₀.archs[a]? = some s₀) (g₁ : w₁.archs[a]? = some s₁)
    (g₂ : w₂.archs[a]? = some s₂) {e : Ent} (he₀ : e ∈ s₀.ents) (he₁ : e ∉ s₁.ents) :
    e ∉ s₂.ents := by
  obtain ⟨r₁, r₂⟩ := run_split hw₀ ho hs h₁ h₂
  exact sreach_dead_stays_dead hw (hw₀.get g₀) (r₁.reach a s₀ s₁ g₀ g₁) (r₂.reach a s₁ s₂ g₁ g₂)
    he₀ he₁

/-- A create at any later point returns a handle different from every handle that
existed earlier: if after a history `ops₁` a `create` in archetype `a` succeeds, the handle it
adds (`e ∈ s₁'.ents`, `e ∉ s₁.ents`) was not in `a`'s dense array at the start `w₀` — for every
choice of the starting point, so at NO earlier point. -/
theorem C08_created_handle_is_new {cfg : Cfg} (hw : cfg.wrapping = false)
    {w₀ w₁ w₁' : World α} {ops₁ : List (Op α)} {a : Nat} {row : List α} {g : Nat → Nat}
    (hw₀ : WInv cfg w₀) (hc : CfgOk cfg) (ho : OpsOk cfg (ops₁ ++ [.create a row g]))
    (hs : OpsScoped w₀.sch (ops₁ ++ [.create a row g]))
    (h₁ : run cfg w₀ ops₁ = some w₁) (hcr : stepOp cfg w₁ (.create a row g) = .ok w₁')
    {s₀ s₁ s₁' : Storage α} (g₀ : w₀.archs[a]? = some s₀) (g₁ : w₁.archs[a]? = some s₁)
    (g₁' : w₁'.archs[a]? = some s₁') {e : Ent} (he : e ∈ s₁'.ents) (hne : e ∉ s₁.ents) :
    e ∉ s₀.ents :=
  fun he₀ => C08_unique_within_archetype hw hw₀ hc ho hs h₁ (run_single_ok hcr) g₀ g₁ g₁' he₀ hne he

theorem created_unissued {cfg : Cfg} (hw : cfg.wrapping = false) {w₀ w₁ : World α}
    {ops₁ : List (Op α)} (hw₀ : WInv cfg w₀) (ho : OpsOk cfg ops₁)
    (hs : OpsScoped w₀.sch ops₁) (h₁ : run cfg w₀ ops₁ = some w₁) {a : Nat}
    {s₁ s₁' : Storage α} {e : Ent} (g₁ : w₁.archs[a]? = some s₁) (hsc : SCreate cfg s₁ s₁' e) :
    ∃ s₀, w₀.archs[a]? = some s₀ ∧ s₁'.ents = s₁.ents ++ [e] ∧ e ∉ s₁.ents ∧ e ∉ s₀.ents := by
  have r₁ := run_wrel hw₀ ho hs h₁
  obtain ⟨s₀, g₀⟩ := getElem?_some_of_length_eq r₁.len.symm g₁
  have f := hsc.facts (r₁.winv.get g₁)
  exact ⟨s₀, g₀, f.ents, f.notMem,
    fun he₀ => C08_never_reissued hw (hw₀.get g₀) he₀ (r₁.reach a s₀ s₁ g₀ g₁) hsc rfl⟩

/-- The handle `e` RETURNED by `World::create` after any history `ops₁` from `w₀` is stored
afterwards, was not stored just before, and was not stored at `w₀`. -/
theorem C08_create_returns_unissued {cfg : Cfg} (hw : cfg.wrapping = false)
    {w₀ w₁ w₁' : World α} {ops₁ : List (Op α)} {a : Nat} {row : List α} {g : Nat → Nat}
    (hw₀ : WInv cfg w₀) (hc : CfgOk cfg) (ho : OpsOk cfg ops₁) (hs : OpsScoped w₀.sch ops₁)
    (hg : GrowOk cfg g) (h₁ : run cfg w₀ ops₁ = some w₁) {e : Ent}
    (hcr : w₁.create cfg g a row = .ok e w₁') :
    ∃ s₀ s₁ s₁', w₀.archs[a]? = some s₀ ∧ w₁.archs[a]? = some s₁ ∧ w₁'.archs[a]? = some s₁'
      ∧ s₁'.ents = s₁.ents ++ [e] ∧ e ∉ s₁.ents ∧ e ∉ s₀.ents := by
  obtain ⟨s₁, s₁', g₁, hp, _, g₁'⟩ := create_ok hcr
  obtain ⟨s₀, g₀, h⟩ :=
    created_unissued hw hw₀ ho hs h₁ g₁ (.push s₁ s₁' g row e (fun h => hg _ h) hp)
  exact ⟨s₀, s₁, s₁', g₀, g₁, g₁', h⟩

/-- Every earlier point: in a history `w₀ —ops₀→ wₘ —ops₁→ w₁` followed by a successful
`create` in archetype `a`, the returned handle was not in `a`'s dense array at the
intermediate point `wₘ` — wherever the history is cut. -/
theorem C08_never_issued_twice {cfg : Cfg} (hw : cfg.wrapping = false)
    {w₀ wₘ w₁ w₁' : World α} {ops₀ ops₁ : List (Op α)} {a : Nat} {row : List α} {g : Nat → Nat}
    (hw₀ : WInv cfg w₀) (hc : CfgOk cfg) (ho : OpsOk cfg (ops₀ ++ ops₁))
    (hs : OpsScoped w₀.sch (ops₀ ++ ops₁)) (hg : GrowOk cfg g)
    (h₀ : run cfg w₀ ops₀ = some wₘ) (h₁ : run cfg wₘ ops₁ = some w₁) {e : Ent}
    (hcr : w₁.create cfg g a row = .ok e w₁') {sₘ : Storage α} (gₘ : wₘ.archs[a]? = some sₘ) :
    e ∉ sₘ.ents := by
  obtain ⟨r₀, _⟩ := run_split hw₀ ho hs h₀ h₁
  obtain ⟨s₀, _, _, g₀, _, _, _, _, h⟩ :=
    C08_create_returns_unissued hw r₀.winv hc (OpsOk_append.mp ho).2
      (by rw [r₀.sch_eq]; exact (OpsScoped_append.mp hs).2) hg h₁ hcr
  rw [gₘ] at g₀; cases g₀; exact h

/-- `C08_create_returns_unissued` for the handle returned by `World::create_within_capacity`. -/
theorem C08_createWithin_returns_unissued {cfg : Cfg} (hw : cfg.wrapping = false)
    {w₀ w₁ w₁' : World α} {ops₁ : List (Op α)} {a : Nat} {row : List α}
    (hw₀ : WInv cfg w₀) (hc : CfgOk cfg) (ho : OpsOk cfg ops₁) (hs : OpsScoped w₀.sch ops₁)
    (h₁ : run cfg w₀ ops₁ = some w₁) {e : Ent}
    (hcr : w₁.createWithin cfg a row = .ok (some e) w₁') :
    ∃ s₀ s₁ s₁', w₀.archs[a]? = some s₀ ∧ w₁.archs[a]? = some s₁ ∧ w₁'.archs[a]? = some s₁'
      ∧ s₁'.ents = s₁.ents ++ [e] ∧ e ∉ s₁.ents ∧ e ∉ s₀.ents := by
  obtain ⟨s₁, s₁', g₁, hp, _, g₁'⟩ := createWithin_ok hcr
  obtain ⟨s₀, g₀, h⟩ := created_unissued hw hw₀ ho hs h₁ g₁ (.pushWithin s₁ s₁' row e hp)
  exact ⟨s₀, s₁, s₁', g₀, g₁, g₁', h⟩

/-- Handles of different archetypes differ as dynamic handles (`EntityAny`), whatever their
indices and generations: the id byte differs. -/
theorem C08_unique_across_archetypes {cfg : Cfg} {w : World α} (hw : WInv cfg w) {a b ia ib : Nat}
    (hab : a ≠ b) (ha : w.ids[a]? = some ia) (hb : w.ids[b]? = some ib) (i v j v' : Nat) :
    mkKey i ia v ≠ mkKey j ib v' :=
  fun e => hw.ids_ne hab ha hb (mkKey_inj (hw.id_lt ha) (hw.id_lt hb) e).2.1

/-- At the last generation (`u32::MAX`) of a slot or of the archetype the removal panics and
the state is unchanged: the entity stays alive and nothing is reissued — through an `Entity`
key and through a direct key. -/
theorem C08_overflow_panics_instead_of_reissuing {cfg : Cfg} (hw : cfg.wrapping = false)
    {s : Storage α} {d : Nat} {t : Ent} (h : Inv cfg s) (hd : s.ents[d]? = some t)
    (hv : t.ver = cfg.vmax ∨ s.version = cfg.vmax) :
    (∃ msg, destroyEnt cfg s t = .panic msg s)
    ∧ (∃ msg, destroyDirect cfg s d s.version = .panic msg s) :=
  ⟨overflow_blocks_reissue hw h (List.mem_of_getElem? hd) hv,
   overflow_blocks_reissue_direct hw h hd hv⟩

open HistEx in
/-- With the feature `wrapping_version` the property fails, as documented: on a one-slot
storage with `vmax = 2`, create/destroy/create/destroy/create returns the first handle again
(model functions run directly); and all hypotheses of `no_resurrection`/`fresh_forever` other
than `cfg.wrapping = false` hold there while their conclusion fails. -/
theorem C08_wrapping_is_the_documented_exception :
    (∃ (s0 s1 s2 s3 s4 s5 : Storage Nat) (e e' : Ent) (r1 r2 : List Nat),
      cfgW.wrapping = true ∧ cfgW.vmax = 2
      ∧ withCapacity cfgW 1 1 = .ok () s0
      ∧ pushWithin cfgW s0 [7] = .ok (some e) s1
      ∧ destroyEnt cfgW s1 e = .ok (some r1) s2
      ∧ pushWithin cfgW s2 [8] = .ok (some e') s3
      ∧ destroyEnt cfgW s3 e' = .ok (some r2) s4
      ∧ pushWithin cfgW s4 [9] = .ok (some e) s5)
    ∧ (∃ (s s₁ s' : Storage Nat) (seen : List Ent) (e : Ent),
      HInv cfgW s seen ∧ SReach cfgW s s₁ ∧ SCreate cfgW s₁ s' e
      ∧ e ∈ seen ∧ e ∉ s.ents ∧ e ∈ s'.ents) :=
  ⟨C08_wrapping_witness, C08_wrapping_resurrection⟩

section Examples
open WorldEx StorageEx HistEx

example : cfgEx.wrapping = false := rfl

-- storage level: `holeEx` with the ghost {(0,1), (2,1), (1,1)}; one creation later the new
-- handle (1,2) is none of them
example : ∀ e ∈ holeEx1.ents, e ∉ holeEx.ents → e ∉ [(⟨0, 1⟩ : Ent), ⟨2, 1⟩, ⟨1, 1⟩] :=
  C08_new_handles_are_fresh rfl holeEx_hinv
    (.step (.refl _) holeEx_inv (.pushWithin _ _ _ _ holeEx_create))
example : (⟨1, 2⟩ : Ent) ∈ holeEx1.ents ∧ (⟨1, 2⟩ : Ent) ∉ holeEx.ents := by decide

/-- world level: on `w2`, destroy (0,1) then create: the create returns (0,2). -/
def c08ops : List (Op Nat) := [.destroy ⟨true, false, ⟨.any, 0, mkKey 0 3 1⟩, none⟩]

example : ∃ w₁ e w₁', run cfgEx w2 c08ops = some w₁
    ∧ w₁.create cfgEx (codeGrowth cfgEx) 0 [13, 23] = .ok e w₁' ∧ e = ⟨0, 2⟩ :=
  ⟨_, _, _, rfl, rfl, rfl⟩

example (w₁ w₁' : World Nat) (e : Ent) (h₁ : run cfgEx w2 c08ops = some w₁)
    (hcr : w₁.create cfgEx (codeGrowth cfgEx) 0 [13, 23] = .ok e w₁') : e ∉ holeEx.ents := by
  obtain ⟨s₀, s₁, s₁', g₀, _, _, _, _, h⟩ :=
    C08_create_returns_unissued rfl w2_winv cfgEx_ok (ops₁ := c08ops) trivial
      (by intro op hop
          simp only [c08ops, List.mem_cons, List.not_mem_nil, or_false] at hop
          subst hop; exact KeyUse.scoped_of_untyped rfl)
      (fun c hc => codeGrowth_ok cfgEx c hc) h₁ hcr
  cases g₀; exact h

-- ids 3 and 7 of `w2`
example : mkKey 0 3 1 ≠ mkKey 0 7 1 :=
  C08_unique_across_archetypes w2_winv (a := 0) (b := 1) (by decide) rfl rfl 0 1 0 1

-- overflow: `ovfEx` holds an entity whose slot generation is `vmax = 5`
example : (∃ msg, destroyEnt cfgEx ovfEx ⟨0, 5⟩ = .panic msg ovfEx)
    ∧ (∃ msg, destroyDirect cfgEx ovfEx 0 ovfEx.version = .panic msg ovfEx) :=
  C08_overflow_panics_instead_of_reissuing rfl ovfEx_inv (d := 0) rfl (.inl rfl)

end Examples
end Gecs

section
open Gecs
#print axioms C08_new_handles_are_fresh
#print axioms C08_unique_within_archetype
#print axioms C08_created_handle_is_new
#print axioms C08_create_returns_unissued
#print axioms C08_never_issued_twice
#print axioms C08_createWithin_returns_unissued
#print axioms C08_unique_across_archetypes
#print axioms C08_overflow_panics_instead_of_reissuing
#print axioms C08_wrapping_is_the_documented_exception
end
