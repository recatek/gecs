/-
C01 — A handle resolves iff its entity is alive; stale handles never resolve.
Models: Gecs/Model/Storage.lean (`resolveEntity` = storage.rs `StorageN::resolve_entity`,
`forceCreate`/`push` = `force_create`/`push`, `forceDestroy`/`destroyEnt` = `force_destroy`/
`resolve_destroy`), Gecs/Model/World.lean (`Key`, `mkKey`, `Key.toEnt` = the key packing of
entity.rs; `KeyUse.route`, `routeArch`, `routeWorld`, `World.contains/toDirect/fetch/destroy`
= the dispatch generated by macros/src/generate/world.rs and the `Archetype::*` entry points)
and Gecs/Model/History.lean (`Op`, `stepOp`, `run`: finite histories of API calls with
ARBITRARY handle words and closures, continuing after panics).  The models are tied to the
Rust code by harness/rt (differential run of driver and crate on the same operation sequences):
the `create`/`createw`, `destroy`, `todirect`, `find`/`findb` lines and the `probe` lines, whose
fields are what `contains`, `resolve`, `to_direct`, `view`, `borrow` answer for one handle, typed
and dynamic, at archetype and world level.

The history theorems are stated over `run cfg w₀ ops` of any length (`C01_accepted_iff_alive`,
`C01_all_paths_agree`, `C01_foreign_archetype_absent`, `C01_destroy_kills_exactly` are about one
`WInv` world, which every history from a `WInv` world reaches: `run_inv`); the hypotheses
`WInv cfg w₀`, `CfgOk cfg`, `OpsOk cfg ops`, `OpsScoped w₀.sch ops` are: the initial world is
well formed (e.g. fresh from `World::with_capacity`, `World.withCapacity_winv`), `u32::MAX ≥ 1`,
growth functions are admissible, and the static scoping the Rust type system guarantees.
Generations are NON-wrapping (`cfg.wrapping = false`) wherever "forever" is claimed; with
`wrapping_version` the claim is false by design (Props/C08.lean).
"Alive" = the entity's handle `(slot, generation)` is in the dense array `ents` of its
archetype's storage; a successful destroy removes exactly it (`C01_destroy_kills_exactly`).
-/
import Gecs.Lemmas.CheckSound
import Gecs.Lemmas.WorldHistory
import Gecs.Props.C08

-- OBLIGATIONS: Gecs.C01_accepted_iff_alive Gecs.C01_accepted_iff_alive_history
-- OBLIGATIONS: Gecs.C01_all_paths_agree Gecs.C01_foreign_archetype_absent
-- OBLIGATIONS: Gecs.C01_destroyed_rejected_forever Gecs.C01_destroy_kills_exactly
-- OBLIGATIONS: Gecs.invCheck_iff

namespace Gecs
variable {α : Type}

/-- In every world satisfying the invariant, for every archetype index `a` and ANY `Entity`
words `k` (forged, stale, foreign):
* `contains`/`resolve` accepts `k` at dense index `d` iff position `d` of archetype `a` holds
  exactly these words (slot index AND generation), i.e. iff that entity is alive;
* `view`/`borrow`/`ecs_find!` (`fetch`) accepts iff alive, and then hands out that very entity's
  handle and row;
* `to_direct` accepts iff alive, and then mints `(d, archetype version)` for it. -/
theorem C01_accepted_iff_alive {cfg : Cfg} {w : World α} (hw : WInv cfg w) (a : Nat) (k : Key) :
    (∀ d, w.contains cfg (.arch a k) false = .ok (some d) w
        ↔ ∃ s, w.archs[a]? = some s ∧ s.ents[d]? = some k.toEnt)
    ∧ (∀ d e row w', w.fetch cfg (.arch a k) false = .ok (some (d, e, row)) w'
        ↔ w' = w ∧ e = k.toEnt
          ∧ ∃ s, w.archs[a]? = some s ∧ s.ents[d]? = some k.toEnt ∧ readRow s d = some row)
    ∧ (∀ k' w', w.toDirect cfg (.arch a k) false = .ok (some k') w'
        ↔ w' = w ∧ ∃ s d, w.archs[a]? = some s ∧ s.ents[d]? = some k.toEnt
          ∧ k' = mkKey d (w.ids.getD a ID_RANGE) s.version) :=
  ⟨contains_ent_iff hw a k, fetch_ent_iff hw a k, toDirect_ent_iff hw a k⟩

/-- `C01_accepted_iff_alive` in every reachable state of every history (any length, arbitrary
forged handles in every destroy/write/find, arbitrary closures): the history does not reach
`ub`, and in the world it ends in acceptance is exactly aliveness; in particular a handle whose
entity is not alive — stale or never issued — is not accepted. -/
theorem C01_accepted_iff_alive_history {cfg : Cfg} {w₀ : World α} {ops : List (Op α)}
    (hw₀ : WInv cfg w₀) (hc : CfgOk cfg) (ho : OpsOk cfg ops) (hs : OpsScoped w₀.sch ops) :
    ∃ w, run cfg w₀ ops = some w
      ∧ (∀ a k d, w.contains cfg (.arch a k) false = .ok (some d) w
          ↔ ∃ s, w.archs[a]? = some s ∧ s.ents[d]? = some k.toEnt)
      ∧ (∀ a k s, w.archs[a]? = some s → k.toEnt ∉ s.ents →
          ¬ ∃ d, w.contains cfg (.arch a k) false = .ok (some d) w) := by
  obtain ⟨w, h1, h2, _⟩ := run_inv hw₀ hc ho hs
  exact ⟨w, h1, fun a k d => contains_ent_iff h2 a k d,
    fun a k s g hn => (rejected_of_not_alive h2 g hn).1⟩

/-- The handle of a live entity `e` of archetype `a` (declared id `id`) is
`mkKey e.slot id e.ver`.  All four ways of using it — as a typed `Entity<A>` or as a dynamic
`EntityAny`, through the archetype-level API on `a` (`at_ = some a`, or `none` = the static
archetype) or through the world-level API — in debug and in release builds, are routed to
archetype `a` with exactly these words, and `contains`/`resolve`, `to_direct` and
`view`/`borrow`/`find` all accept it at the same dense index `d`, `to_direct` minting
`(d, id, archetype version)`, `fetch` handing out `e` and its row. -/
theorem C01_all_paths_agree {cfg : Cfg} {w : World α} (hw : WInv cfg w) {a d id : Nat}
    {s : Storage α} {e : Ent} (g : w.archs[a]? = some s) (hid : w.ids[a]? = some id)
    (he : s.ents[d]? = some e) (worldLevel typed : Bool) (at_ : Option Nat)
    (hat : at_ = none ∨ at_ = some a) :
    let k := mkKey e.slot id e.ver
    let u : KeyUse := ⟨worldLevel, typed, ⟨kindOf typed false, a, k⟩, at_⟩
    u.route cfg w.ids = .arch a k
    ∧ w.contains cfg (u.route cfg w.ids) u.h.kind.isDirect = .ok (some d) w
    ∧ w.toDirect cfg (u.route cfg w.ids) u.h.kind.isDirect = .ok (some (mkKey d id s.version)) w
    ∧ ∃ row, readRow s d = some row
        ∧ w.fetch cfg (u.route cfg w.ids) u.h.kind.isDirect = .ok (some (d, e, row)) w := by
  intro k u
  have hlt := hw.id_lt hid
  have hr : u.route cfg w.ids = .arch a k :=
    route_own_handle hw.idsNodup hid hlt e.slot e.ver _ worldLevel typed at_ hat
  have hdir : u.h.kind.isDirect = false := kindOf_isDirect typed false
  have hk : k.toEnt = e := mkKey_toEnt hlt e
  have hd : s.ents[d]? = some k.toEnt := by rw [hk]; exact he
  rw [hr, hdir]
  refine ⟨rfl, (contains_ent_iff hw a k d).mpr ⟨s, g, hd⟩, ?_, ?_⟩
  · exact toDirect_own_handle hw g hid he
  · obtain ⟨row, hrow, hf⟩ := fetch_ent_of_alive hw g hd
    rw [hk] at hf
    exact ⟨row, hrow, hf⟩

/-- The handle `mkKey e.slot id e.ver` of an entity of archetype `a`, used as a dynamic key through
the archetype-level API of ANOTHER archetype `b ≠ a`, is refused (`None`/`false`), whatever is
stored there. -/
theorem C01_foreign_archetype_absent {cfg : Cfg} {w : World α} (hw : WInv cfg w) {a b id : Nat}
    (hid : w.ids[a]? = some id) (hab : b ≠ a) (e : Ent) (kind : KeyKind) (a' : Nat) :
    let u : KeyUse := ⟨false, false, ⟨kind, a', mkKey e.slot id e.ver⟩, some b⟩
    u.route cfg w.ids = .absent
    ∧ w.contains cfg (u.route cfg w.ids) false = .ok none w
    ∧ w.toDirect cfg (u.route cfg w.ids) false = .ok none w
    ∧ w.fetch cfg (u.route cfg w.ids) false = .ok none w := by
  intro u
  have hr : u.route cfg w.ids = .absent :=
    route_foreign_absent hw.idsNodup hid (hw.id_lt hid) hab e.slot e.ver kind a'
  rw [hr]
  exact ⟨rfl, rfl, rfl, rfl⟩

/-- Stale handles are rejected forever (non-wrapping generations).  For a history in two
halves `w₀ —ops₁→ w₁ —ops₂→ w₂`: an entity of archetype `a` that was alive at `w₀` and is not
alive at `w₁` (it was destroyed in between, by whatever path) is not alive at `w₂`, and every
key carrying its words is rejected at `w₂` by `contains`/`resolve`, `view`/`borrow`/`find` and
`to_direct` — no matter how often its slot or dense position has been reused or how the
archetype has grown during `ops₂`. -/
theorem C01_destroyed_rejected_forever {cfg : Cfg} (hw : cfg.wrapping = false)
    {w₀ w₁ w₂ : World α} {ops₁ ops₂ : List (Op α)}
    (hw₀ : WInv cfg w₀) (hc : CfgOk cfg) (ho : OpsOk cfg (ops₁ ++ ops₂))
    (hs : OpsScoped w₀.sch (ops₁ ++ ops₂))
    (h₁ : run cfg w₀ ops₁ = some w₁) (h₂ : run cfg w₁ ops₂ = some w₂)
    {a : Nat} {s₀ s₁ s₂ : Storage α} (g₀ : w₀.archs[a]? = some s₀) (g₁ : w₁.archs[a]? = some s₁)
    (g₂ : w₂.archs[a]? = some s₂) {e : Ent} (he₀ : e ∈ s₀.ents) (he₁ : e ∉ s₁.ents) :
    e ∉ s₂.ents
    ∧ ∀ k : Key, k.toEnt = e →
        (¬ ∃ d, w₂.contains cfg (.arch a k) false = .ok (some d) w₂)
        ∧ (¬ ∃ r w', w₂.fetch cfg (.arch a k) false = .ok (some r) w')
        ∧ (¬ ∃ k' w', w₂.toDirect cfg (.arch a k) false = .ok (some k') w') := by
  have hdead := C08_unique_within_archetype hw hw₀ hc ho hs h₁ h₂ g₀ g₁ g₂ he₀ he₁
  have hw₂ := (run_split hw₀ ho hs h₁ h₂).2.winv
  exact ⟨hdead, fun k hk => rejected_of_not_alive hw₂ g₂ (hk ▸ hdead)⟩

/-- A successful `destroy` through a route `.arch a k` by an `Entity` key removes exactly the
entity `k.toEnt` from archetype `a` — it was alive, afterwards the live handles of `a` are the
old ones minus it —, leaves every other archetype and the ids untouched, keeps the invariant,
and returns that entity's row. -/
theorem C01_destroy_kills_exactly {cfg : Cfg} {w w' : World α} (hw : WInv cfg w) {a : Nat}
    {k : Key} {row : List α} (h : w.destroy cfg (.arch a k) false = .ok (some row) w') :
    ∃ s s', w.archs[a]? = some s ∧ w'.archs[a]? = some s'
      ∧ k.toEnt ∈ s.ents
      ∧ (∀ x, x ∈ s'.ents ↔ x ∈ s.ents ∧ x ≠ k.toEnt)
      ∧ (∀ b, b ≠ a → w'.archs[b]? = w.archs[b]?)
      ∧ w'.ids = w.ids ∧ WInv cfg w'
      ∧ (∃ d, s.ents[d]? = some k.toEnt ∧ readRow s d = some row) := by
  obtain ⟨s, s', d, g, rfl, g', r⟩ := destroy_ent_ok hw h
  have hi := hw.get g
  refine ⟨s, s', g, g', r.mem, r.mem_iff hi, fun b hb => World.setArch_get_ne s' (Ne.symm hb), rfl,
    hw.setArch a r.inv, d, r.pos, ?_⟩
  rw [r.row]
  exact readRow_of_lt hi (hi.ents_lt r.pos)

section Examples
open WorldEx StorageEx

-- `w2`: archetype 0 (id 3) holds (0,1) at dense 0 and (2,1) at dense 1; slot 1 is free at
-- generation 2, so (1,1) is stale.
example : w2.contains cfgEx (.arch 0 (mkKey 2 3 1)) false = .ok (some 1) w2 :=
  ((C01_accepted_iff_alive w2_winv 0 (mkKey 2 3 1)).1 1).mpr ⟨holeEx, rfl, rfl⟩
example : ¬ ∃ d, w2.contains cfgEx (.arch 0 (mkKey 1 3 1)) false = .ok (some d) w2 := by
  rintro ⟨d, hd⟩
  obtain ⟨s, g, h⟩ := ((C01_accepted_iff_alive w2_winv 0 (mkKey 1 3 1)).1 d).mp hd
  cases g
  have : (mkKey 1 3 1).toEnt ∈ holeEx.ents := List.mem_of_getElem? h
  revert this; decide

-- all four paths, here the typed world-level one in the debug build `cfgEx`
example : w2.contains cfgEx
    (KeyUse.route cfgEx w2.ids ⟨true, true, ⟨.ent, 0, mkKey 2 3 1⟩, none⟩) false
    = .ok (some 1) w2 :=
  (C01_all_paths_agree w2_winv (a := 0) (d := 1) (id := 3) (s := holeEx) (e := ⟨2, 1⟩)
    rfl rfl rfl true true none (.inl rfl)).2.1

/-- A history on `w2`: the entity (0,1) is destroyed through a dynamic world-level key
(`c01ops₁`); then three creations (`c01ops₂`), the first reusing its slot (now generation 2), the
last growing the archetype. -/
def c01ops₁ : List (Op Nat) := [.destroy ⟨true, false, ⟨.any, 0, mkKey 0 3 1⟩, none⟩]
def c01ops₂ : List (Op Nat) :=
  [.create 0 [13, 23] (codeGrowth cfgEx), .create 0 [14, 24] (codeGrowth cfgEx),
   .create 0 [15, 25] (codeGrowth cfgEx)]

theorem c01ops_ok : OpsOk cfgEx (c01ops₁ ++ c01ops₂) := by
  have hg : GrowOk cfgEx (codeGrowth cfgEx) := fun c hc => codeGrowth_ok cfgEx c hc
  exact ⟨hg, hg, hg, trivial⟩

theorem c01ops_scoped : OpsScoped w2.sch (c01ops₁ ++ c01ops₂) := by
  intro op hop
  simp only [c01ops₁, c01ops₂, List.cons_append, List.nil_append, List.mem_cons,
    List.not_mem_nil, or_false] at hop
  rcases hop with rfl | rfl | rfl | rfl
  · exact KeyUse.scoped_of_untyped rfl
  · exact (rfl : w2.sch[0]? = some 2)
  · exact (rfl : w2.sch[0]? = some 2)
  · exact (rfl : w2.sch[0]? = some 2)

-- the hypotheses of `C01_destroyed_rejected_forever` hold on this history for e = (0,1) …
example : ∃ w₁ w₂ s₁ s₂, run cfgEx w2 c01ops₁ = some w₁ ∧ run cfgEx w₁ c01ops₂ = some w₂
    ∧ w₁.archs[0]? = some s₁ ∧ w₂.archs[0]? = some s₂
    ∧ (⟨0, 1⟩ : Ent) ∈ holeEx.ents ∧ (⟨0, 1⟩ : Ent) ∉ s₁.ents
    -- … slot 0 is occupied again (generation 2) and the archetype has grown
    ∧ (⟨0, 2⟩ : Ent) ∈ s₂.ents ∧ holeEx.capacity < s₂.capacity :=
  ⟨_, _, _, _, rfl, rfl, rfl, rfl, by decide, by decide, by decide, by decide⟩

-- … so the theorem applies to it
example (w₁ w₂ : World Nat) (s₁ s₂ : Storage Nat) (h₁ : run cfgEx w2 c01ops₁ = some w₁)
    (h₂ : run cfgEx w₁ c01ops₂ = some w₂) (g₁ : w₁.archs[0]? = some s₁)
    (g₂ : w₂.archs[0]? = some s₂) (he₁ : (⟨0, 1⟩ : Ent) ∉ s₁.ents) :
    ¬ ∃ d, w₂.contains cfgEx (.arch 0 (mkKey 0 3 1)) false = .ok (some d) w₂ :=
  ((C01_destroyed_rejected_forever rfl w2_winv cfgEx_ok c01ops_ok c01ops_scoped h₁ h₂
    (a := 0) (s₀ := holeEx) rfl g₁ g₂ (e := ⟨0, 1⟩) (by decide) he₁).2 (mkKey 0 3 1) rfl).1

-- a successful destroy on `w2`
example : ∃ row w', w2.destroy cfgEx (.arch 0 (mkKey 0 3 1)) false = .ok (some row) w' :=
  ⟨_, _, rfl⟩

end Examples
end Gecs

section
open Gecs
#print axioms C01_accepted_iff_alive
#print axioms C01_accepted_iff_alive_history
#print axioms C01_all_paths_agree
#print axioms C01_foreign_archetype_absent
#print axioms C01_destroyed_rejected_forever
#print axioms C01_destroy_kills_exactly
end
