/-
C10 / C04 — HISTORIES WITH FAULT POINTS.  The fault model of Gecs/Model/Faults.lean (a user
`Clone::clone` that panics in the middle of `world.clone()`, a user `Drop::drop` that panics while
the world is dropped) as OPERATIONS of histories: Gecs/Model/FaultHistory.lean (`OpF`, `runF`,
`cloneFaultOutcome`, `endOfLife`); helper lemmas: Gecs/Lemmas/FaultHistories.lean.  In words:

 * `runF_erase`, `runF_faults_unobservable`: a faulted clone never changes the world; every later
   operation runs in exactly the world the plain operations alone produce.
 * `C10_fault_histories`: any interleaving of (possibly panicking) operations and faulted clones
   runs, never reaches `ub`, keeps `WInv` (at the end and after every prefix), logs one outcome per
   faulted clone, and moves every archetype along a label path emitted by the plain operations.
 * `C10_clone_fault_accounting`, `C10_fault_log_complete`: every clone made by a faulted
   `world.clone()` is dropped or leaked exactly once, nothing after the fault point is cloned, the
   clones are clones of values the source world owns, the source world is untouched.
 * `C10_end_of_life`: when the world reached is dropped and the `k`-th `Drop::drop` panics, what is
   dropped and what is leaked partition the owned values (no double drop); the leak is the rest of
   ONE archetype; without a fault `World.drop` drops exactly the owned values.
 * `C04_lifecycle_with_faults` (+ `_from`, `_withCapacity`): whole-life balance.  Every value ever
   moved into the world is, exactly once, handed back by a removal, dropped by the world drop, or
   leaked by the faulting drop — whatever faulted clones were interleaved.
-/
import Gecs.Lemmas.FaultHistories
import Gecs.Props.Histories

-- OBLIGATIONS(C10): Gecs.runF_erase Gecs.runF_faults_unobservable Gecs.C10_fault_histories Gecs.C10_clone_fault_accounting Gecs.C10_fault_log_complete Gecs.C10_end_of_life
-- OBLIGATIONS(C04): Gecs.C04_lifecycle_with_faults Gecs.C04_lifecycle_with_faults_from Gecs.C04_lifecycle_with_faults_withCapacity Gecs.C10_end_of_life Gecs.C10_clone_fault_accounting

namespace Gecs
variable {α : Type}

/-- `runF` is `run` on the plain operations, paired with the log computed along the way
(`faultLog`: the outcome of every `cloneFaulted`, evaluated on the world reached at that point).
No hypotheses: this holds for every world, every history, `ub` included. -/
theorem runF_erase (cfg : Cfg) (isZ : α → Bool) (w : World α) (ops : List (OpF α)) :
    runF cfg isZ w ops
        = (run cfg w (OpF.erase ops)).map (fun w' => (w', faultLog cfg isZ w ops))
      ∧ (runF cfg isZ w ops).map Prod.fst = run cfg w (OpF.erase ops) :=
  ⟨runF_eq_run cfg isZ w ops, runF_fst cfg isZ w ops⟩

/-- Consequence of `runF_erase`: faulted clones never change what any later operation observes.
(1) Whatever follows a prefix `ops₁` runs from exactly the world that the PLAIN operations of
`ops₁` produce — the faulted clones of `ops₁` only contribute to the log.
(2) Two histories with the same plain operations reach the same world (or both reach `ub`).
(3) Removing one faulted clone from a history does not change the world reached. -/
theorem runF_faults_unobservable (cfg : Cfg) (isZ : α → Bool) (w : World α) :
    (∀ ops₁ ops₂ : List (OpF α), runF cfg isZ w (ops₁ ++ ops₂)
        = (run cfg w (OpF.erase ops₁)).bind (fun w₁ =>
            (runF cfg isZ w₁ ops₂).map (fun r => (r.1, faultLog cfg isZ w ops₁ ++ r.2))))
      ∧ (∀ ops ops' : List (OpF α), OpF.erase ops = OpF.erase ops' →
          (runF cfg isZ w ops).map Prod.fst = (runF cfg isZ w ops').map Prod.fst)
      ∧ (∀ (ops₁ ops₂ : List (OpF α)) (cl : α → α) (k : Nat),
          (runF cfg isZ w (ops₁ ++ .cloneFaulted cl k :: ops₂)).map Prod.fst
            = (runF cfg isZ w (ops₁ ++ ops₂)).map Prod.fst) := by
  refine ⟨?_, ?_, ?_⟩
  · intro ops₁ ops₂
    rw [runF_append, runF_eq_run cfg isZ w ops₁]
    cases run cfg w (OpF.erase ops₁) <;> rfl
  · intro ops ops' h
    rw [runF_fst, runF_fst, h]
  · intro ops₁ ops₂ cl k
    rw [runF_fst, runF_fst, OpF.erase_append, OpF.erase_append]
    rfl

/-- C10 for histories with fault points.  Hypotheses: those of `run_inv`, on the plain operations
(handles, closures, growth arbitrary; panicking operations included); the faulted clones (`cl`,
`k`) and their positions are arbitrary.  The history runs — never `ub` —, the world reached
satisfies `WInv` (same ids, same schema) and is the one the plain operations alone reach; the
log has one entry per faulted clone; every archetype is reached by a label path emitted, in
order, by the plain operations (conclusion of `run_labelled_emits`); and the same holds after
EVERY PREFIX of the history: the world reached by the prefix satisfies `WInv`, the rest of the
history runs from it, the logs concatenate. -/
theorem C10_fault_histories {cfg : Cfg} (isZ : α → Bool) {w : World α} {ops : List (OpF α)}
    (hw : WInv cfg w) (hc : CfgOk cfg) (ho : OpsOk cfg (OpF.erase ops))
    (hs : OpsScoped w.sch (OpF.erase ops)) :
    ∃ w' log, runF cfg isZ w ops = some (w', log) ∧ WInv cfg w'
      ∧ log.length = OpF.faultCount ops
      ∧ run cfg w (OpF.erase ops) = some w'
      ∧ w'.ids = w.ids ∧ w'.archs.length = w.archs.length ∧ w'.sch = w.sch
      ∧ (∀ (a : Nat) (s s' : Storage α), w.archs[a]? = some s → w'.archs[a]? = some s' →
          ∃ L, LReach cfg s L s' ∧ OpsEmit a (OpF.erase ops) L)
      ∧ (∀ ops₁ ops₂ : List (OpF α), ops = ops₁ ++ ops₂ →
          ∃ w₁ log₁ log₂, runF cfg isZ w ops₁ = some (w₁, log₁) ∧ WInv cfg w₁
            ∧ log₁.length = OpF.faultCount ops₁
            ∧ runF cfg isZ w₁ ops₂ = some (w', log₂) ∧ log = log₁ ++ log₂) := by
  obtain ⟨w', log, h1, h2, h3, h4, q3⟩ := runF_ok isZ hc hw ho hs
  refine ⟨w', log, h1, h3.winv, h4, h2, h3.ids, h3.len, h3.sch_eq, q3, ?_⟩
  rintro ops₁ ops₂ rfl
  obtain ⟨w₁, log₁, w₂, log₂, p1, p2, p3, r1, _, l1⟩ := runF_prefix isZ hc hw ho hs
  cases h1.symm.trans p3
  exact ⟨w₁, log₁, log₂, p1, r1.winv, l1, p2, rfl⟩

/-- Accounting for ONE faulted clone at an arbitrary position of an arbitrary history
`ops₁ ++ cloneFaulted cl k :: ops₂`.  With `w₁` the world reached by `ops₁` (it satisfies `WInv`)
and `o` the outcome logged for that operation (entry number `faultCount ops₁` of the log):
* the world after the operation is `w₁` itself (the source world keeps every value it owned),
  and the rest of the history runs from `w₁`;
* `o.dropped ++ o.leaked` is `cl` applied to the first `n` values of `w₁` in clone order: every
  clone made is dropped or leaked exactly once, nothing from position `n` on is cloned;
  a fault happens iff position `n` exists and holds a non-zero-sized value (the faulting one), and
  then exactly `k` non-zero-sized values were cloned before it; without a fault `n` is the number
  of all values, every clone is dropped, none leaked;
* the values in clone order are a permutation of the values the world owns (`owned`); with
  pairwise distinct owned values and an injective `Clone` no clone is dropped twice, leaked twice
  or both;
* without a fault the operation IS "clone, then drop the clone": the model's `World.clone`
  succeeds on `w₁` and dropping its result (`World.drop`, never `ub`) drops `cl` of every owned
  value, of which `o.dropped` (listed in clone order) is a permutation;
* in the fault case the dropped clones are those of the archetypes before archetype `m`, the
  leaked ones those of a proper prefix of archetype `m`, which continues with the faulting value. -/
theorem C10_clone_fault_accounting {cfg : Cfg} (isZ : α → Bool) {w : World α}
    {ops₁ ops₂ : List (OpF α)} {cl : α → α} {k : Nat} (hw : WInv cfg w) (hc : CfgOk cfg)
    (ho : OpsOk cfg (OpF.erase (ops₁ ++ .cloneFaulted cl k :: ops₂)))
    (hs : OpsScoped w.sch (OpF.erase (ops₁ ++ .cloneFaulted cl k :: ops₂))) :
    ∃ w₁ log₁ w' log₂ o,
      runF cfg isZ w ops₁ = some (w₁, log₁) ∧ WInv cfg w₁ ∧ log₁.length = OpF.faultCount ops₁
      ∧ o = cloneFaultOutcome isZ w₁ cl k
      ∧ runF cfg isZ w (ops₁ ++ [.cloneFaulted cl k]) = some (w₁, log₁ ++ [o])
      ∧ runF cfg isZ w₁ ops₂ = some (w', log₂) ∧ WInv cfg w'
      ∧ runF cfg isZ w (ops₁ ++ .cloneFaulted cl k :: ops₂) = some (w', log₁ ++ o :: log₂)
      ∧ (∃ n, n ≤ w₁.clonePerArch.flatten.length
          ∧ o.dropped ++ o.leaked = (w₁.clonePerArch.flatten.take n).map cl
          ∧ ((cloneFault isZ w₁.clonePerArch k).isSome
              ↔ ∃ v, w₁.clonePerArch.flatten[n]? = some v ∧ isZ v = false)
          ∧ ((cloneFault isZ w₁.clonePerArch k).isSome
              → nzCount isZ (w₁.clonePerArch.flatten.take n) = k)
          ∧ (cloneFault isZ w₁.clonePerArch k = none
              → n = w₁.clonePerArch.flatten.length ∧ o.leaked = []
                ∧ o.dropped = w₁.clonePerArch.flatten.map cl
                ∧ nzCount isZ w₁.clonePerArch.flatten ≤ k))
      ∧ w₁.clonePerArch.flatten.Perm (w₁.archs.flatMap owned)
      ∧ ((∀ x y, cl x = cl y → x = y) → (w₁.archs.flatMap owned).Nodup →
          (o.dropped ++ o.leaked).Nodup)
      ∧ (cloneFault isZ w₁.clonePerArch k = none →
          ∃ wc, w₁.clone cl = .ok wc () ∧ WInv cfg wc
            ∧ wc.drop = .ok ((w₁.archs.flatMap owned).map cl) ()
            ∧ o.dropped.Perm ((w₁.archs.flatMap owned).map cl))
      ∧ (∀ src, cloneFault isZ w₁.clonePerArch k = some src →
          o = ⟨src.dropped.map cl, src.leaked.map cl⟩
          ∧ ∃ m a v rest, w₁.clonePerArch[m]? = some a
              ∧ src.dropped = (w₁.clonePerArch.take m).flatten
              ∧ a = src.leaked ++ v :: rest ∧ isZ v = false) := by
  obtain ⟨w₁, log₁, w₂, log₂', p1, p2, p3, r1, r2, l1⟩ := runF_prefix isZ hc hw ho hs
  simp only [runF, Option.map_eq_some_iff, Prod.mk.injEq] at p2
  obtain ⟨r, hr, rfl, rfl⟩ := p2
  have hmade := cloneFaultOutcome_made isZ w₁ cl k
  refine ⟨w₁, log₁, r.1, r.2, cloneFaultOutcome isZ w₁ cl k, p1, r1.winv, l1, rfl, ?_, hr,
    r2.winv, p3, hmade, World.clonePerArch_flatten_perm r1.winv, fun hcl hnd => ?_, ?_, ?_⟩
  · rw [runF_append, p1]; rfl
  · -- the clones made are `cl` of a prefix of the clone order, a permutation of the owned values
    obtain ⟨n, -, n2, -⟩ := hmade
    rw [n2]
    exact List.Pairwise.map cl (fun _ _ hab h => hab (hcl _ _ h))
      (((World.clonePerArch_flatten_perm r1.winv).nodup_iff.2 hnd).sublist (List.take_sublist n _))
  · intro hn
    -- "clone, then drop the clone"; `o.dropped` lists the same clones in clone order
    obtain ⟨wc, c1, c2, c3⟩ := World.clone_then_drop r1.winv cl
    rw [cloneFaultOutcome_none isZ w₁ cl k hn]
    exact ⟨wc, c1, c2, c3, (World.clonePerArch_flatten_perm r1.winv).map cl⟩
  · intro src hsrc
    exact ⟨by simp only [cloneFaultOutcome, hsrc], cloneFault_leaked_then_fault isZ _ k src hsrc⟩

/-- The log contains nothing else: every entry of the log of a history is the
outcome of one of its `cloneFaulted` operations, evaluated on the world reached by the operations
before it (so `C10_clone_fault_accounting` accounts for every clone any faulted clone ever made). -/
theorem C10_fault_log_complete {cfg : Cfg} (isZ : α → Bool) {w w' : World α}
    {ops : List (OpF α)} {log : List (FaultOutcome α)} (h : runF cfg isZ w ops = some (w', log))
    (i : Nat) (o : FaultOutcome α) (hi : log[i]? = some o) :
    ∃ ops₁ cl k ops₂ w₁ log₁, ops = ops₁ ++ .cloneFaulted cl k :: ops₂
      ∧ OpF.faultCount ops₁ = i ∧ runF cfg isZ w ops₁ = some (w₁, log₁)
      ∧ o = cloneFaultOutcome isZ w₁ cl k := by
  revert i
  refine runF_some_induction (motive := fun w ops _ log => ∀ i, log[i]? = some o →
    ∃ ops₁ cl k ops₂ w₁ log₁, ops = ops₁ ++ .cloneFaulted cl k :: ops₂
      ∧ OpF.faultCount ops₁ = i ∧ runF cfg isZ w ops₁ = some (w₁, log₁)
      ∧ o = cloneFaultOutcome isZ w₁ cl k) ?_ ?_ ?_ h
  · intro w i hi; cases hi
  · intro w op ops w₁ w' log h₁ _ ih i hi
    obtain ⟨ops₁, cl, k, ops₂, w₂, log₁, rfl, e2, e3, e4⟩ := ih i hi
    exact ⟨.plain op :: ops₁, cl, k, ops₂, w₂, log₁, rfl, e2,
      by rw [runF_plain_cons, h₁]; exact e3, e4⟩
  · intro w cl k ops w' log _ ih i hi
    cases i with
    | zero => exact ⟨[], cl, k, ops, w, [], rfl, rfl, rfl, (Option.some.inj hi).symm⟩
    | succ i =>
      obtain ⟨ops₁, cl', k', ops₂, w₁, log₁, rfl, e2, e3, e4⟩ := ih i hi
      exact ⟨.cloneFaulted cl k :: ops₁, cl', k', ops₂, w₁, cloneFaultOutcome isZ w cl k :: log₁,
        rfl, congrArg (· + 1) e2, by simp only [runF, e3, Option.map_some], e4⟩

/-- End of life of the world reached by any history with fault points, for every fault position
`k` of the world drop (`endOfLife isZ w' k`):
* dropped and leaked values together are a permutation of the owned values;
* if the owned values are pairwise distinct nothing is dropped twice or leaked twice, and nothing
  dropped is leaked;
* the drop faults iff `k` is smaller than the number of non-zero-sized owned values;
* without a fault everything is dropped, in drop order, as the model's `World.drop` does (which
  never reaches `ub` here): `w'.archs.flatMap owned` is the owned values in drop order;
* with a fault the leak is a suffix of the owned values of exactly ONE archetype, right behind
  the value whose `Drop::drop` panicked; everything else is dropped. -/
theorem C10_end_of_life {cfg : Cfg} (isZ : α → Bool) {w : World α} {ops : List (OpF α)}
    (hw : WInv cfg w) (hc : CfgOk cfg) (ho : OpsOk cfg (OpF.erase ops))
    (hs : OpsScoped w.sch (OpF.erase ops)) (k : Nat) :
    ∃ w' log, runF cfg isZ w ops = some (w', log) ∧ WInv cfg w'
      ∧ ((endOfLife isZ w' k).dropped ++ (endOfLife isZ w' k).leaked).Perm
          (w'.archs.flatMap owned)
      ∧ ((w'.archs.flatMap owned).Nodup →
          (endOfLife isZ w' k).dropped.Nodup ∧ (endOfLife isZ w' k).leaked.Nodup
          ∧ ∀ x ∈ (endOfLife isZ w' k).dropped, x ∉ (endOfLife isZ w' k).leaked)
      ∧ ((dropFault isZ w'.dropPerArch k).isSome ↔ k < nzCount isZ (w'.archs.flatMap owned))
      ∧ w'.drop = .ok (w'.archs.flatMap owned) ()
      ∧ (dropFault isZ w'.dropPerArch k = none →
          endOfLife isZ w' k = ⟨w'.archs.flatMap owned, []⟩)
      ∧ (∀ o, dropFault isZ w'.dropPerArch k = some o → endOfLife isZ w' k = o
          ∧ ∃ a s p v, w'.archs[a]? = some s ∧ owned s = p ++ v :: o.leaked ∧ isZ v = false
            ∧ o.dropped = (w'.archs.take a).flatMap owned ++ (p ++ [v])
                ++ (w'.archs.drop (a + 1)).flatMap owned) := by
  obtain ⟨w', log, h1, _, h3, _⟩ := runF_ok isZ hc hw ho hs
  exact ⟨w', log, h1, h3.winv, endOfLife_spec isZ h3.winv k⟩

/-- Whole-life balance from ANY initial world satisfying `WInv`.  History: plain operations
that neither overwrite nor clone-and-switch (`Op.IsCDC`: creations, removals, `clear_events`,
query loops binding no column `&mut`), with any number of faulted clones interleaved; then the
world is dropped and the `k`-th `Drop::drop` panics (or none does).  There is ONE list `Ls` of
label paths, `Ls[a]` the path of archetype `a` (from its initial to its final storage, emitted by
the plain operations), such that
  dropped by the world drop ++ leaked by the faulting drop ++ handed back by removals
is a permutation of
  initially owned ++ moved in by creations. -/
theorem C04_lifecycle_with_faults_from {cfg : Cfg} (isZ : α → Bool) {w : World α}
    {ops : List (OpF α)} (hw : WInv cfg w) (hc : CfgOk cfg) (ho : OpsOk cfg (OpF.erase ops))
    (hs : OpsScoped w.sch (OpF.erase ops)) (hcdc : ∀ op ∈ OpF.erase ops, op.IsCDC) (k : Nat) :
    ∃ (w' : World α) (log : List (FaultOutcome α)) (Ls : List (List (Lbl α))),
      runF cfg isZ w ops = some (w', log) ∧ WInv cfg w'
      ∧ log.length = OpF.faultCount ops
      ∧ Ls.length = w'.archs.length ∧ w'.archs.length = w.archs.length
      ∧ (∀ (a : Nat) (s s' : Storage α), w.archs[a]? = some s → w'.archs[a]? = some s' →
          ∃ L, Ls[a]? = some L ∧ LReach cfg s L s' ∧ OpsEmit a (OpF.erase ops) L
            ∧ RowsOk s.cols.length L ∧ (∀ l ∈ L, l.isCDC = true)
            ∧ (owned s' ++ destroyedRows L).Perm (owned s ++ createdRows L))
      ∧ ((endOfLife isZ w' k).dropped ++ (endOfLife isZ w' k).leaked
            ++ Ls.flatMap destroyedRows).Perm
          (w.archs.flatMap owned ++ Ls.flatMap createdRows)
      ∧ ((w.archs.flatMap owned ++ Ls.flatMap createdRows).Nodup →
          ((endOfLife isZ w' k).dropped ++ (endOfLife isZ w' k).leaked
            ++ Ls.flatMap destroyedRows).Nodup) := by
  obtain ⟨w', log, h1, _, h3, h4, q3⟩ := runF_ok isZ hc hw ho hs
  -- one label path per archetype, as a list, with the sum of the per-archetype balances
  obtain ⟨Ls, hlen, hper, hbal⟩ := exists_balanced_list owned destroyedRows createdRows
    w.archs w'.archs
    (fun a s s' L => LReach cfg s L s' ∧ OpsEmit a (OpF.erase ops) L ∧ RowsOk s.cols.length L
      ∧ (∀ l ∈ L, l.isCDC = true) ∧ (owned s' ++ destroyedRows L).Perm (owned s ++ createdRows L))
    h3.len.symm
    (by
      intro a s s' g g'
      obtain ⟨L, r, he⟩ := q3 a s s' g g'
      have hr : RowsOk s.cols.length L := he.rowsOk hs (World.sch_of_get g)
      have hl := he.cdc hcdc
      have hb := C04_conservation hr hl r
      exact ⟨L, ⟨r, he, hr, hl, hb⟩, hb⟩)
  have hp := (endOfLife_spec isZ h3.winv k).1
  have hfin := (hp.append_right (Ls.flatMap destroyedRows)).trans hbal
  exact ⟨w', log, Ls, h1, h3.winv, h4, hlen, h3.len, hper, hfin, fun hnd => hfin.nodup_iff.2 hnd⟩

/-- C04, whole-life balance, from a world in which every archetype is empty (as after
`World::with_capacity`): every value ever moved into the world by a creation is, exactly once,
handed back by a removal, dropped by the world drop, or leaked by the faulting drop — whatever
faulted clones were interleaved (their clones are accounted for separately and completely by
`C10_clone_fault_accounting`: each is dropped or leaked exactly once, the world's own values are
not affected).  The balance is given for the list `Ls` of per-archetype label paths and, in the
last conjunct, in index form. -/
theorem C04_lifecycle_with_faults {cfg : Cfg} (isZ : α → Bool) {w : World α}
    {ops : List (OpF α)} (hw : WInv cfg w) (hc : CfgOk cfg) (ho : OpsOk cfg (OpF.erase ops))
    (hs : OpsScoped w.sch (OpF.erase ops)) (hf : ∀ s ∈ w.archs, s.len = 0)
    (hcdc : ∀ op ∈ OpF.erase ops, op.IsCDC) (k : Nat) :
    ∃ (w' : World α) (log : List (FaultOutcome α)) (Ls : List (List (Lbl α))),
      runF cfg isZ w ops = some (w', log) ∧ WInv cfg w'
      ∧ log.length = OpF.faultCount ops
      ∧ Ls.length = w'.archs.length ∧ w'.archs.length = w.archs.length
      ∧ (∀ (a : Nat) (s s' : Storage α), w.archs[a]? = some s → w'.archs[a]? = some s' →
          ∃ L, Ls[a]? = some L ∧ LReach cfg s L s' ∧ OpsEmit a (OpF.erase ops) L
            ∧ RowsOk s.cols.length L ∧ (∀ l ∈ L, l.isCDC = true)
            ∧ (owned s' ++ destroyedRows L).Perm (createdRows L))
      ∧ ((endOfLife isZ w' k).dropped ++ (endOfLife isZ w' k).leaked
            ++ Ls.flatMap destroyedRows).Perm (Ls.flatMap createdRows)
      ∧ ((Ls.flatMap createdRows).Nodup →
          ((endOfLife isZ w' k).dropped ++ (endOfLife isZ w' k).leaked
            ++ Ls.flatMap destroyedRows).Nodup)
      ∧ ((endOfLife isZ w' k).dropped ++ (endOfLife isZ w' k).leaked
            ++ (List.range w'.archs.length).flatMap (fun a => destroyedRows (Ls.getD a []))).Perm
          ((List.range w'.archs.length).flatMap (fun a => createdRows (Ls.getD a []))) := by
  obtain ⟨w', log, Ls, h1, h2, h3, h4, h5, h6, h7, h8⟩ :=
    C04_lifecycle_with_faults_from isZ hw hc ho hs hcdc k
  have h0 : w.archs.flatMap owned = [] :=
    List.flatMap_eq_nil_iff.mpr fun s hs => owned_of_len_zero (hw.inv s hs) (hf s hs)
  rw [h0, List.nil_append] at h7 h8
  refine ⟨w', log, Ls, h1, h2, h3, h4, h5, ?_, h7, h8, ?_⟩
  · intro a s s' g g'
    obtain ⟨L, e1, e2, e3, e4, e5, e6⟩ := h6 a s s' g g'
    rw [owned_of_len_zero (hw.get g) (hf s (List.mem_of_getElem? g)), List.nil_append] at e6
    exact ⟨L, e1, e2, e3, e4, e5, e6⟩
  · rw [← h4, flatMap_range_getD, flatMap_range_getD]
    exact h7

/-- `C04_lifecycle_with_faults` instantiated at `World::with_capacity`: for every admissible
declaration the world is created, every history with fault points whose plain operations are
scoped by the declaration and `Op.IsCDC` runs on it, and the whole-life balance holds for every
fault position `k` of the final world drop. -/
theorem C04_lifecycle_with_faults_withCapacity (cfg : Cfg) (isZ : α → Bool)
    (ids ncols caps : List Nat) {ops : List (OpF α)}
    (hnd : ids.Nodup) (hlt : ∀ i ∈ ids, i < ID_RANGE) (hl1 : ids.length = ncols.length)
    (hl2 : ncols.length = caps.length) (hcap : ∀ c ∈ caps, c ≤ cfg.maxCap) (hc : CfgOk cfg)
    (ho : OpsOk cfg (OpF.erase ops)) (hs : OpsScoped ncols (OpF.erase ops))
    (hcdc : ∀ op ∈ OpF.erase ops, op.IsCDC) (k : Nat) :
    ∃ (w w' : World α) (log : List (FaultOutcome α)) (Ls : List (List (Lbl α))),
      World.withCapacity cfg ids ncols caps = .ok () w
      ∧ runF cfg isZ w ops = some (w', log) ∧ WInv cfg w'
      ∧ log.length = OpF.faultCount ops ∧ Ls.length = w'.archs.length
      ∧ w'.archs.length = ids.length
      ∧ (∀ (a : Nat) (s s' : Storage α), w.archs[a]? = some s → w'.archs[a]? = some s' →
          ∃ L, Ls[a]? = some L ∧ LReach cfg s L s' ∧ OpsEmit a (OpF.erase ops) L
            ∧ (owned s' ++ destroyedRows L).Perm (createdRows L))
      ∧ ((endOfLife isZ w' k).dropped ++ (endOfLife isZ w' k).leaked
            ++ Ls.flatMap destroyedRows).Perm (Ls.flatMap createdRows) := by
  obtain ⟨w, g1, g2, g3, g4, _, g6, _⟩ :=
    World.withCapacity_winv (α := α) cfg ids ncols caps hnd hlt hl1 hl2 hcap hc
  obtain ⟨w', log, Ls, h1, h2, h3, h4, h5, h6, h7, _⟩ :=
    C04_lifecycle_with_faults isZ g2 hc ho (g6 ▸ hs) g4 hcdc k
  refine ⟨w, w', log, Ls, g1, h1, h2, h3, h4, ?_, ?_, h7⟩
  · rw [h5, ← g2.idsLen, g3]
  · intro a s s' g g'
    obtain ⟨L, e1, e2, e3, _, _, e6⟩ := h6 a s s' g g'
    exact ⟨L, e1, e2, e3, e6⟩

namespace WorldEx
open StorageEx

/-- `0` is the zero-sized value (its Clone / Drop never faults, it is only counted). -/
def isZst : Nat → Bool := fun v => v == 0

/-- A history with fault points on the two-archetype world `wEx` (fresh from
`World::with_capacity`): four creations (one row contains the zero-sized value `0`);
a `world.clone()` whose 3rd non-zero-sized clone (`k = 2`) panics in the MIDDLE of archetype 0,
behind the zero-sized value (clone order of archetype 0: `10 0 11 21`, fault at `21`; the clones
`110 100 111` are leaked); a removal; a `world.clone()` faulting in archetype 1 (`k = 3`, clone
order `11 21 | 5 6`, fault at `6`: the clones of archetype 0 are dropped, `105` is leaked); a
removal with a forged key (panics, the history goes on); a `world.clone()` with `k = 9` too
large (no fault: all four clones made and dropped); a creation; `clear_events`. -/
def histF : List (OpF Nat) :=
  [ .plain (.create 0 [10, 0] (codeGrowth cfgEx)),
    .plain (.create 0 [11, 21] (codeGrowth cfgEx)),
    .plain (.create 1 [5] (codeGrowth cfgEx)),
    .plain (.create 1 [6] (codeGrowth cfgEx)),
    .cloneFaulted (· + 100) 2,
    .plain (.destroy ⟨true, false, ⟨.any, 0, mkKey 0 3 1⟩, none⟩),
    .cloneFaulted (· + 100) 3,
    .plain (.destroy ⟨true, false, ⟨.any, 0, mkKey 5 9 1⟩, none⟩),
    .cloneFaulted (· + 100) 9,
    .plain (.create 0 [12, 0] (codeGrowth cfgEx)),
    .plain (.clearEvents none) ]

example : OpF.faultCount histF = 3 := rfl
example : (OpF.erase histF).length = 8 := rfl

-- the history evaluates: (len, columns) per archetype of the world reached, and the log
-- (evaluation is left to the kernel: by `rfl` the elaborator runs the history as well)
example : (runF cfgEx isZst wEx histF).map
      (fun r => (r.1.archs.map (fun s => (s.len, s.cols)), r.2))
    = some ([(2, [[11, 12], [21, 0]]), (2, [[5, 6]])],
        [⟨[], [110, 100, 111]⟩, ⟨[111, 121], [105]⟩, ⟨[111, 121, 105, 106], []⟩]) := by
  decide +kernel

-- the faulted clones are transparent
example : (runF cfgEx isZst wEx histF).map (fun r => r.1.archs.map (fun s => (s.len, s.cols)))
    = (run cfgEx wEx (OpF.erase histF)).map (fun w => w.archs.map (fun s => (s.len, s.cols))) := by
  decide +kernel

-- clone order / drop order of the world reached, and its end of life for three fault positions:
-- `k = 1`: the drop of `12` panics, `21 0` (the trailing zero-sized value too) are leaked,
-- archetype 1 is dropped; `k = 2`: the drop of `21` panics; `k = 7`: nothing faults.
example : (runF cfgEx isZst wEx histF).map (fun r => (r.1.clonePerArch, r.1.dropPerArch))
    = some ([[11, 21, 12, 0], [5, 6]], [[11, 12, 21, 0], [5, 6]]) := by decide +kernel
example : (runF cfgEx isZst wEx histF).map (fun r => endOfLife isZst r.1 1)
    = some ⟨[11, 12, 5, 6], [21, 0]⟩ := by decide +kernel
example : (runF cfgEx isZst wEx histF).map (fun r => endOfLife isZst r.1 2)
    = some ⟨[11, 12, 21, 5, 6], [0]⟩ := by decide +kernel
example : (runF cfgEx isZst wEx histF).map (fun r => endOfLife isZst r.1 7)
    = some ⟨[11, 12, 21, 0, 5, 6], []⟩ := by decide +kernel

theorem histF_ok : OpsOk cfgEx (OpF.erase histF) := by
  have hg : GrowOk cfgEx (codeGrowth cfgEx) := fun c hc => codeGrowth_ok cfgEx c hc
  exact ⟨hg, hg, hg, hg, hg, trivial⟩

theorem histF_scoped : OpsScoped wEx.sch (OpF.erase histF) := by
  intro op hop
  simp only [histF, OpF.erase, List.mem_cons, List.not_mem_nil, or_false] at hop
  rcases hop with rfl | rfl | rfl | rfl | rfl | rfl | rfl | rfl
  · exact (rfl : wEx.sch[0]? = some 2)
  · exact (rfl : wEx.sch[0]? = some 2)
  · exact (rfl : wEx.sch[1]? = some 1)
  · exact (rfl : wEx.sch[1]? = some 1)
  · exact KeyUse.scoped_of_untyped rfl
  · exact KeyUse.scoped_of_untyped rfl
  · exact (rfl : wEx.sch[0]? = some 2)
  · trivial

theorem histF_cdc : ∀ op ∈ OpF.erase histF, op.IsCDC := by
  intro op hop
  simp only [histF, OpF.erase, List.mem_cons, List.not_mem_nil, or_false] at hop
  rcases hop with rfl | rfl | rfl | rfl | rfl | rfl | rfl | rfl <;> trivial

theorem wEx_empty : ∀ s ∈ wEx.archs, s.len = 0 := by decide

/-- `C10_fault_histories` on `histF`. -/
example : ∃ w' log, runF cfgEx isZst wEx histF = some (w', log) ∧ WInv cfgEx w'
    ∧ log.length = 3
    ∧ ∀ (a : Nat) (s s' : Storage Nat), wEx.archs[a]? = some s → w'.archs[a]? = some s' →
        ∃ L, LReach cfgEx s L s' ∧ OpsEmit a (OpF.erase histF) L := by
  obtain ⟨w', log, h1, h2, h3, _, _, _, _, h8, _⟩ :=
    C10_fault_histories isZst wEx_inv cfgEx_ok histF_ok histF_scoped
  exact ⟨w', log, h1, h2, h3, h8⟩

/-- `C10_fault_histories` on a history with overwriting, panicking and cloning operations:
`histEx` (Lemmas/StepRun.lean) with two faulted clones inserted. -/
def histFX : List (OpF Nat) :=
  (histEx.take 6).map .plain ++ .cloneFaulted (· + 100) 3
    :: ((histEx.drop 6).map .plain ++ [.cloneFaulted (· + 100) 0])

example : OpF.erase histFX = histEx := rfl

example : ∃ w' log, runF cfgEx isZst wEx histFX = some (w', log) ∧ WInv cfgEx w'
    ∧ log.length = 2 ∧ run cfgEx wEx histEx = some w' := by
  obtain ⟨w', log, h1, h2, h3, h4, _⟩ :=
    C10_fault_histories (ops := histFX) isZst wEx_inv cfgEx_ok
      histEx_ok histEx_scoped
  exact ⟨w', log, h1, h2, h3, h4⟩

-- `histFX` evaluates: the first fault (`k = 3`) hits `77` (clone order of archetype 0 after the
-- `ecs_iter!` / `ecs_find!` writes: `90 20 91 77 92 22`; the clones `190 120 191` are leaked);
-- the second one (`k = 0`) hits the very first value of the final world: no clone was made.
example : (runF cfgEx isZst wEx histFX).map
      (fun r => (r.1.archs.map (fun s => (s.len, s.cols)), r.2))
    = some ([(1, [[93], [56]]), (0, [[]])], [⟨[], [190, 120, 191]⟩, ⟨[], []⟩]) := by
  decide +kernel

/-- `C10_clone_fault_accounting` at the first faulted clone of `histF` (`ops₁` = the four
creations): a fault (`k = 2 < 5` non-zero-sized values). -/
example : ∃ w₁ log₁ o, runF cfgEx isZst wEx (histF.take 4) = some (w₁, log₁) ∧ WInv cfgEx w₁
    ∧ o = cloneFaultOutcome isZst w₁ (· + 100) 2
    ∧ runF cfgEx isZst wEx (histF.take 5) = some (w₁, log₁ ++ [o])
    ∧ ∃ n, o.dropped ++ o.leaked = (w₁.clonePerArch.flatten.take n).map (· + 100)
        ∧ ∃ v, w₁.clonePerArch.flatten[n]? = some v ∧ isZst v = false := by
  have hsplit : histF = histF.take 4 ++ .cloneFaulted (· + 100) 2 :: histF.drop 5 := rfl
  have ho := histF_ok
  have hs := histF_scoped
  rw [hsplit] at ho hs
  obtain ⟨w₁, log₁, _, _, o, h1, h2, _, h4, h5, _, _, _, ⟨n, _, n2, n3, _, _⟩, _⟩ :=
    C10_clone_fault_accounting isZst wEx_inv cfgEx_ok ho hs
  refine ⟨w₁, log₁, o, h1, h2, h4, h5, n, n2, n3.mp ?_⟩
  -- the fault is reached: evaluate `cloneFault` on the world reached by the four creations
  have : (runF cfgEx isZst wEx (histF.take 4)).map
      (fun r => (cloneFault isZst r.1.clonePerArch 2).isSome) = some true := by decide +kernel
  rw [h1] at this
  exact Option.some.inj this

/-- `C10_clone_fault_accounting` at the third faulted clone of `histF` (`k = 9`, no fault): clone,
then drop the clone. -/
example : ∃ w₁ log₁ o wc, runF cfgEx isZst wEx (histF.take 8) = some (w₁, log₁)
    ∧ o = cloneFaultOutcome isZst w₁ (· + 100) 9 ∧ o.leaked = []
    ∧ w₁.clone (· + 100) = .ok wc ()
    ∧ wc.drop = .ok ((w₁.archs.flatMap owned).map (· + 100)) ()
    ∧ o.dropped.Perm ((w₁.archs.flatMap owned).map (· + 100)) := by
  have hsplit : histF = histF.take 8 ++ .cloneFaulted (· + 100) 9 :: histF.drop 9 := rfl
  have ho := histF_ok
  have hs := histF_scoped
  rw [hsplit] at ho hs
  obtain ⟨w₁, log₁, _, _, o, h1, _, _, h4, _, _, _, _, ⟨n, _, _, _, _, n5⟩, _, _, hnf, _⟩ :=
    C10_clone_fault_accounting isZst wEx_inv cfgEx_ok ho hs
  have hnone : cloneFault isZst w₁.clonePerArch 9 = none := by
    have : (runF cfgEx isZst wEx (histF.take 8)).map
        (fun r => (cloneFault isZst r.1.clonePerArch 9).isNone) = some true := by decide +kernel
    rw [h1] at this
    exact Option.isNone_iff_eq_none.mp (Option.some.inj this)
  obtain ⟨wc, c1, _, c3, c4⟩ := hnf hnone
  exact ⟨w₁, log₁, o, wc, h1, h4, (n5 hnone).2.1, c1, c3, c4⟩

/-- `C10_fault_log_complete` on `histF`: entry 1 of its log is the outcome of its second faulted
clone, on the world reached by the operations before it. -/
example : ∃ w' log o, runF cfgEx isZst wEx histF = some (w', log) ∧ log[1]? = some o
    ∧ ∃ ops₁ cl k ops₂ w₁ log₁, histF = ops₁ ++ .cloneFaulted cl k :: ops₂
        ∧ OpF.faultCount ops₁ = 1 ∧ runF cfgEx isZst wEx ops₁ = some (w₁, log₁)
        ∧ o = cloneFaultOutcome isZst w₁ cl k := by
  obtain ⟨w', log, h1, _, h3, _⟩ :=
    C10_fault_histories isZst wEx_inv cfgEx_ok histF_ok histF_scoped
  have hlt : 1 < log.length := by rw [h3]; decide
  have hg : log[1]? = some log[1] := List.getElem?_eq_getElem hlt
  exact ⟨w', log, log[1], h1, hg, C10_fault_log_complete isZst h1 1 _ hg⟩

/-- `C10_end_of_life` on `histF`, for every `k`. -/
example (k : Nat) : ∃ w' log, runF cfgEx isZst wEx histF = some (w', log)
    ∧ ((endOfLife isZst w' k).dropped ++ (endOfLife isZst w' k).leaked).Perm
        (w'.archs.flatMap owned)
    ∧ w'.drop = .ok (w'.archs.flatMap owned) () := by
  obtain ⟨w', log, h1, _, h3, _, _, h6, _⟩ :=
    C10_end_of_life isZst wEx_inv cfgEx_ok histF_ok histF_scoped k
  exact ⟨w', log, h1, h3, h6⟩

-- the owned values of the world reached by `histF` are pairwise distinct (hypothesis of the
-- `Nodup` part of `C10_end_of_life`)
example : (runF cfgEx isZst wEx histF).map (fun r => decide (r.1.archs.flatMap owned).Nodup)
    = some true := by decide +kernel

/-- `C04_lifecycle_with_faults` on `histF` (`wEx` is empty, the plain operations of `histF` are
creations, removals and `clear_events`), for every fault position `k` of the world drop. -/
example (k : Nat) : ∃ (w' : World Nat) (log : List (FaultOutcome Nat))
      (Ls : List (List (Lbl Nat))),
    runF cfgEx isZst wEx histF = some (w', log) ∧ Ls.length = 2
    ∧ ((endOfLife isZst w' k).dropped ++ (endOfLife isZst w' k).leaked
          ++ Ls.flatMap destroyedRows).Perm (Ls.flatMap createdRows) := by
  obtain ⟨w', log, Ls, h1, _, _, h4, h5, _, h7, _⟩ :=
    C04_lifecycle_with_faults isZst wEx_inv cfgEx_ok histF_ok
      histF_scoped wEx_empty histF_cdc k
  exact ⟨w', log, Ls, h1, by rw [h4, h5]; rfl, h7⟩

/-- `C04_lifecycle_with_faults_withCapacity` on `histF`. -/
example (k : Nat) : ∃ (w w' : World Nat) (log : List (FaultOutcome Nat))
      (Ls : List (List (Lbl Nat))),
    World.withCapacity cfgEx [3, 7] [2, 1] [2, 0] = .ok () w
    ∧ runF cfgEx isZst w histF = some (w', log) ∧ Ls.length = w'.archs.length
    ∧ ((endOfLife isZst w' k).dropped ++ (endOfLife isZst w' k).leaked
          ++ Ls.flatMap destroyedRows).Perm (Ls.flatMap createdRows) := by
  obtain ⟨w, w', log, Ls, h1, h2, _, _, h5, _, _, h8⟩ :=
    C04_lifecycle_with_faults_withCapacity cfgEx isZst [3, 7] [2, 1] [2, 0] (ops := histF)
      (by decide) (by decide) rfl rfl (by decide) cfgEx_ok histF_ok histF_scoped histF_cdc k
  exact ⟨w, w', log, Ls, h1, h2, h5, h8⟩

end WorldEx
end Gecs

section
open Gecs
#print axioms runF_erase
#print axioms runF_faults_unobservable
#print axioms C10_fault_histories
#print axioms C10_clone_fault_accounting
#print axioms C10_fault_log_complete
#print axioms C10_end_of_life
#print axioms C04_lifecycle_with_faults_from
#print axioms C04_lifecycle_with_faults
#print axioms C04_lifecycle_with_faults_withCapacity
end
