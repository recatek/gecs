/-
C16 — `#[cfg]`-disabled archetypes, components and query parameters behave as absent.
Model: Gecs/Model/Macro.lean (`collectWorld`, `collectQuery`, `chain`, `mkLookup`,
`lookupCfg`, `expandWorld`, `expandQuery`), tied to macros/src/{parse,generate}/cfg.rs,
data.rs, generate/query.rs by harness/mac.  For ALL declarations with any number of predicates
and ALL truth assignments; for ALL queries in which no `OneOf` parameter carries a cfg attribute
(the macro rejects the others, see `C16_query_erasure`).
Not modelled: that rustc expands the `macro_rules!` chain in order and honours `#[cfg]` on
closure parameters — that is rustc (exercised end-to-end by tools/e2e.py: generated programs compiled and run).
-/
import Gecs.Lemmas.MacCfgWorld
import Gecs.Lemmas.MacCfgQuery

-- OBLIGATIONS: Gecs.Mac.C16_lookup Gecs.Mac.C16_world_erasure Gecs.Mac.C16_world_true
-- OBLIGATIONS: Gecs.Mac.C16_query_erasure Gecs.Mac.C16_param_enabled Gecs.Mac.collectWorld_nodup
-- OBLIGATIONS: Gecs.Mac.collectWorld_complete Gecs.Mac.collectQuery_nodup Gecs.Mac.collectQuery_complete
-- OBLIGATIONS: Gecs.Mac.expandWorld_congr Gecs.Mac.query_erasure_strong

namespace Gecs.Mac

/-- The second parse re-collects the predicates and zips them with the booleans produced by
the macro chain; every predicate is looked up to the value the compiler gave it.
(The `Nodup` hypothesis is not needed: a repeated predicate gets the same boolean each time.) -/
theorem C16_lookup (ρ : String → Bool) (preds : List String) (hn : preds.Nodup) :
    ∀ p ∈ preds, lookupCfg (mkLookup preds (chain ρ preds)) p = some (ρ p) :=
  fun p hp => by rw [lookupCfg_mkLookup, if_pos hp]

/-- World erasure: under every assignment the declaration expands exactly like the
declaration with the false-predicate items deleted and all attributes stripped. -/
theorem C16_world_erasure (w : PWorld) (ρ : String → Bool) :
    expandWorld w ρ = expandWorld (eraseWorld ρ w) (fun _ => true) :=
  world_erasure w ρ

/-- With true predicates the attributes might as well be absent. -/
theorem C16_world_true {ρ : String → Bool} (h : ∀ p, ρ p = true) (w : PWorld) :
    expandWorld w ρ = expandWorld (stripWorld w) (fun _ => true) := by
  rw [world_erasure, eraseWorld_true h]

/-- Each parameter's `is_cfg_enabled` is the conjunction of its predicates' values. -/
theorem C16_param_enabled {ps : List QParam} {p : QParam} (ρ : String → Bool) (hp : p ∈ ps) :
    isCfgEnabled (mkLookup (collectQuery ps) (chain ρ (collectQuery ps))) p = some (p.cfgs.all ρ) :=
  isCfgEnabled_pipeline ρ hp

/-- Query erasure: same verdict, same matched archetypes and, position by position on the
enabled parameters, the same bound types, as the query with the disabled parameters deleted.
The hypothesis excludes the documented rejection "cfg attributes not currently supported
on OneOf". -/
theorem C16_query_erasure (w : DWorld) (ps : List QParam) (ρ : String → Bool)
    (h : ∀ p ∈ ps, (∃ cs, p.ty = .oneOf cs) → p.cfgs = []) :
    (expandQuery w ps ρ).map obs = (expandQuery w (eraseQuery ρ ps) (fun _ => true)).map obs := by
  rw [query_erasure_strong w ps ρ h]
  cases expandQuery w ps ρ with
  | error e => rfl
  | ok m => simp only [Except.map, obs_stripB]

end Gecs.Mac

section
open Gecs
#print axioms Mac.C16_lookup
#print axioms Mac.C16_world_true
#print axioms Mac.C16_query_erasure
end
