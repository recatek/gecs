/-
C04 — stated for EVERY FINITE HISTORY of whole-world operations, WRITES INCLUDED (and, in the
second theorem, clones included): everything that ever entered an archetype — its initial
values, the rows of creations, the values written through `&mut` access — is at the end exactly
once either still owned (and then dropped exactly once by the world drop), or handed back by a
removal, or displaced by a write.  The storage-level balances are those of
Lemmas/Ownership.lean; the induction over operations with labels is `run_labelled_emits`
(Lemmas/StepRun.lean).  `Op.NoClone` singles out the histories whose labels are clone-free.
-/
import Gecs.Props.Histories

-- OBLIGATIONS(C04): Gecs.C04_all_histories_with_writes Gecs.C04_all_histories_all_ops Gecs.C04_fresh_with_writes
-- OBLIGATIONS(C04): Gecs.conservation_with_writes Gecs.conservation_all_labels Gecs.nodup_with_writes Gecs.write_step_owned Gecs.OpsEmit.noClone

namespace Gecs
variable {α σ : Type}

def Op.isCloneSwitch : Op α → Bool
  | .cloneSwitch _ => true
  | _ => false

/-- Every operation except `cloneSwitch` ("replace the world by its clone").  Overwriting
operations — `write`, and `ecs_iter!` / `ecs_find!` / `ecs_iter_destroy!` binding columns
`&mut` — are included (`Op.IsCDC` excludes them). -/
def Op.NoClone (op : Op α) : Prop := op.isCloneSwitch = false

instance (op : Op α) : Decidable op.NoClone := inferInstanceAs (Decidable (_ = false))

theorem Op.IsCDC.noClone {op : Op α} (h : op.IsCDC) : op.NoClone := by
  cases op <;> first | rfl | exact h.elim

/-- A history without `cloneSwitch` emits no `.clone` label. -/
theorem OpsEmit.noClone {a : Nat} {ops : List (Op α)} {L : List (Lbl α)}
    (hnc : ∀ op ∈ ops, op.NoClone) (h : OpsEmit a ops L) : ∀ l ∈ L, l.isClone = false := by
  intro l hl
  obtain ⟨op, hop, hem⟩ := h.mem l hl
  have hc := hnc op hop
  cases l with
  | clone cl =>
    -- only `cloneSwitch` emits a `.clone` label
    cases op with
    | cloneSwitch cl' => cases hc
    | _ => exact hem.elim
  | _ => rfl

/-- C04 for all histories without `cloneSwitch` — overwriting operations (`write`, query loops
binding columns `&mut`) included: in every archetype, with `overwritten` the values displaced by
the writes (one per write label: the old value of the written cell, or the written value itself when
the model treats the write as a no-op, row or column out of range),
* everything that was in the storage, was moved in by a creation or was written is either still
  owned, or was handed back by exactly one removal, or was displaced by exactly one write;
* dropping the archetype drops exactly the rest;
* with pairwise distinct values nothing is owned, handed back or displaced twice, nor handed
  back or displaced while still owned (in particular while a value of a live entity). -/
theorem C04_all_histories_with_writes {cfg : Cfg} {w : World α} {ops : List (Op α)}
    (hw : WInv cfg w) (hc : CfgOk cfg) (ho : OpsOk cfg ops) (hs : OpsScoped w.sch ops)
    (hnc : ∀ op ∈ ops, op.NoClone) :
    ∃ w', run cfg w ops = some w' ∧ WInv cfg w'
      ∧ ∀ (a : Nat) (s s' : Storage α), w.archs[a]? = some s → w'.archs[a]? = some s' →
        ∃ L, LReach cfg s L s' ∧ OpsEmit a ops L ∧ RowsOk s.cols.length L
          ∧ (∀ l ∈ L, l.isClone = false)
          ∧ ∃ overwritten : List α, overwritten = overwrittenFrom (view s) L
            ∧ overwritten.length = (L.filter Lbl.isWrite).length
            ∧ (owned s' ++ destroyedRows L ++ overwritten).Perm
                (owned s ++ createdRows L ++ writtenVals L)
            ∧ (∃ dropped, dropStorage s' = .ok dropped ()
                ∧ (dropped ++ destroyedRows L ++ overwritten).Perm
                    (owned s ++ createdRows L ++ writtenVals L))
            ∧ ((owned s ++ createdRows L ++ writtenVals L).Nodup →
                (owned s').Nodup ∧ (destroyedRows L).Nodup ∧ overwritten.Nodup
                ∧ (∀ x ∈ destroyedRows L, x ∉ owned s')
                ∧ (∀ x ∈ overwritten, x ∉ owned s')
                ∧ (∀ x ∈ overwritten, x ∉ destroyedRows L)
                ∧ (∀ e row, valueOf s' e = some row → ∀ x ∈ row,
                    x ∉ destroyedRows L ∧ x ∉ overwritten)) := by
  refine run_each_archetype hw hc ho hs fun _ _ s' _ _ hi r he hr => ?_
  have hl := he.noClone hnc
  have hp := conservation_with_writes_explicit hr hl r
  exact ⟨hr, hl, _, rfl, overwrittenFrom_length _ _, hp,
    ⟨owned s', drop_returns_owned (lockstep hi r), hp⟩,
    fun hnd => nodup_with_writes hr hl r hnd⟩

/-- C04 for ALL histories (`cloneSwitch` included).  A `cloneSwitch` replaces every storage by
its clone; the source storages (`srcs`, one per clone label, each satisfying `Inv`) keep their
own values — dropped exactly once when the source world is dropped
(`dropStorage t = .ok (owned t) ()`) — and the clone owns `Clone` of each of them
(`clonedVals`).  With these two lists the balance closes for every history. -/
theorem C04_all_histories_all_ops {cfg : Cfg} {w : World α} {ops : List (Op α)}
    (hw : WInv cfg w) (hc : CfgOk cfg) (ho : OpsOk cfg ops) (hs : OpsScoped w.sch ops) :
    ∃ w', run cfg w ops = some w' ∧ WInv cfg w'
      ∧ ∀ (a : Nat) (s s' : Storage α), w.archs[a]? = some s → w'.archs[a]? = some s' →
        ∃ L, LReach cfg s L s' ∧ OpsEmit a ops L ∧ RowsOk s.cols.length L
          ∧ ∃ (overwritten : List α) (srcs : List (Storage α)),
              overwritten = overwrittenFrom (view s) L
            ∧ overwritten.length = (L.filter Lbl.isWrite).length
            ∧ srcs.length = (cloneFns L).length
            ∧ (∀ t ∈ srcs, Inv cfg t ∧ dropStorage t = .ok (owned t) ())
            ∧ (owned s' ++ destroyedRows L ++ overwritten ++ srcs.flatMap owned).Perm
                (owned s ++ createdRows L ++ writtenVals L ++ clonedVals (cloneFns L) srcs)
            ∧ (∃ dropped, dropStorage s' = .ok dropped ()
                ∧ (dropped ++ destroyedRows L ++ overwritten ++ srcs.flatMap owned).Perm
                    (owned s ++ createdRows L ++ writtenVals L
                      ++ clonedVals (cloneFns L) srcs)) := by
  refine run_each_archetype hw hc ho hs fun _ _ s' _ _ hi r _ hr => ?_
  obtain ⟨srcs, hlen, hinv, hp⟩ := conservation_all_labels hr r
  exact ⟨hr, _, srcs, rfl, overwrittenFrom_length _ _, hlen,
    fun t ht => ⟨hinv t ht, drop_returns_owned (hinv t ht)⟩, hp,
    ⟨owned s', drop_returns_owned (lockstep hi r), hp⟩⟩

/-- From a world that starts empty (as after `World::with_capacity`): everything created or
written is, at the end, exactly once still owned, handed back or displaced. -/
theorem C04_fresh_with_writes {cfg : Cfg} {w : World α} {ops : List (Op α)}
    (hw : WInv cfg w) (hc : CfgOk cfg) (ho : OpsOk cfg ops) (hs : OpsScoped w.sch ops)
    (hnc : ∀ op ∈ ops, op.NoClone) (hf : ∀ s ∈ w.archs, s.len = 0) :
    ∃ w', run cfg w ops = some w' ∧ WInv cfg w'
      ∧ ∀ (a : Nat) (s s' : Storage α), w.archs[a]? = some s → w'.archs[a]? = some s' →
        ∃ L, LReach cfg s L s' ∧ OpsEmit a ops L
          ∧ (owned s' ++ destroyedRows L ++ overwrittenFrom [] L).Perm
              (createdRows L ++ writtenVals L)
          ∧ ∃ dropped, dropStorage s' = .ok dropped ()
              ∧ (dropped ++ destroyedRows L ++ overwrittenFrom [] L).Perm
                  (createdRows L ++ writtenVals L) := by
  obtain ⟨w', h1, h2, h3⟩ := C04_all_histories_with_writes hw hc ho hs hnc
  refine ⟨w', h1, h2, ?_⟩
  intro a s s' g g'
  obtain ⟨L, r, he, _, _, ov, rfl, _, hp, ⟨dropped, hd, hp'⟩, _⟩ := h3 a s s' g g'
  have hi := hw.get g
  have h0 := hf s (List.mem_of_getElem? g)
  rw [owned_of_len_zero hi h0, view_of_len_zero hi h0, List.nil_append] at hp hp'
  exact ⟨L, r, he, hp, dropped, hd, hp'⟩

namespace WorldEx
open StorageEx

/-- `histEx` (Lemmas/StepRun.lean) without its `cloneSwitch`: three creates (the third grows
the storage), a refused `create_within_capacity`, an `ecs_iter!` writing `90, 91, 92` through
`&mut` column 0, an `ecs_find!` writing `77` to column 1, a removal by a dynamic key, the same
(now stale) key again, a forged key (panics; the history goes on), a write of `55` through a
typed direct key, an `ecs_iter_destroy!` whose closure removes one entity and then panics,
`clear_events`.  `C04_all_histories` does not apply to it (it overwrites). -/
def histW : List (Op Nat) :=
  [ .create 0 [10, 20] (codeGrowth cfgEx),
    .create 0 [11, 21] (codeGrowth cfgEx),
    .create 0 [12, 22] (codeGrowth cfgEx),
    .createWithin 1 [5],
    .iter [⟨0, [.comp 0 true, .ent]⟩] Nat
      (fun st _ => .ret (st + 1) [some (90 + st), none] .cont) 0,
    .find [⟨0, [.comp 1 true, .dirAny]⟩] Nat (fun st _ => .ret st [some 77, none] ())
      ⟨.any, 0, mkKey 1 3 1⟩ 0,
    .destroy ⟨true, false, ⟨.any, 0, mkKey 0 3 1⟩, none⟩,
    .destroy ⟨true, false, ⟨.any, 0, mkKey 0 3 1⟩, none⟩,
    .destroy ⟨true, false, ⟨.any, 0, mkKey 5 9 1⟩, none⟩,
    .write ⟨false, true, ⟨.dir, 0, mkKey 0 3 2⟩, none⟩ 1 55,
    .iterDestroy [⟨0, [.comp 0 false]⟩, ⟨1, []⟩] Nat
      (fun st args => match args with
        | [.comp _ 91] => .ret st [] .contDestroy
        | _ => .panic st []) 0,
    .clearEvents none ]

example : histW = histEx.filter (fun op => !op.isCloneSwitch) := rfl

theorem histW_ok : OpsOk cfgEx histW := by
  have hg : GrowOk cfgEx (codeGrowth cfgEx) := codeGrowth_ok cfgEx
  exact ⟨hg, hg, hg, trivial⟩

theorem histW_scoped : OpsScoped wEx.sch histW := by
  intro op hop
  have hsub : op ∈ histEx.filter (fun op => !op.isCloneSwitch) := hop
  exact histEx_scoped op (List.mem_filter.mp hsub).1

theorem histW_noClone : ∀ op ∈ histW, op.NoClone := by decide

/-- `histW` overwrites, so it is outside the scope of `C04_all_histories`. -/
example : ¬ ∀ op ∈ histW, op.IsCDC := fun h => h (histW[9]) (List.getElem_mem _)

-- the history evaluates: (len, capacity, version, handles, columns) per archetype.  In
-- archetype 0: in = 10 20 11 21 12 22 (created) + 90 91 92 77 55 (written); out = 92 55
-- (still owned) + 90 20 91 77 (handed back) + 10 11 12 21 22 (displaced).
example : (run cfgEx wEx histW).map
      (fun w => w.archs.map (fun s => (s.len, s.capacity, s.version, s.ents, s.cols)))
    = some [(1, 6, 3, [⟨2, 1⟩], [[92], [55]]), (0, 0, 1, [], [[]])] := rfl

/-- C04 with writes on `histW`. -/
example : ∃ w', run cfgEx wEx histW = some w'
    ∧ ∀ (a : Nat) (s s' : Storage Nat), wEx.archs[a]? = some s → w'.archs[a]? = some s' →
        ∃ L, LReach cfgEx s L s' ∧ OpsEmit a histW L
          ∧ ∃ overwritten : List Nat, overwritten.length = (L.filter Lbl.isWrite).length
            ∧ (owned s' ++ destroyedRows L ++ overwritten).Perm
                (owned s ++ createdRows L ++ writtenVals L)
            ∧ ∃ dropped, dropStorage s' = .ok dropped ()
                ∧ (dropped ++ destroyedRows L ++ overwritten).Perm
                    (owned s ++ createdRows L ++ writtenVals L) := by
  obtain ⟨w', h1, _, h3⟩ :=
    C04_all_histories_with_writes wEx_inv cfgEx_ok histW_ok histW_scoped histW_noClone
  refine ⟨w', h1, fun a s s' g g' => ?_⟩
  obtain ⟨L, r, he, _, _, ov, _, hl, hp, hd, _⟩ := h3 a s s' g g'
  exact ⟨L, r, he, ov, hl, hp, hd⟩

/-- `C04_fresh_with_writes` on `histW` (`wEx` is empty, fresh from `World::with_capacity`). -/
example : ∃ w', run cfgEx wEx histW = some w'
    ∧ ∀ (a : Nat) (s s' : Storage Nat), wEx.archs[a]? = some s → w'.archs[a]? = some s' →
        ∃ L, LReach cfgEx s L s' ∧ OpsEmit a histW L
          ∧ (owned s' ++ destroyedRows L ++ overwrittenFrom [] L).Perm
              (createdRows L ++ writtenVals L) := by
  obtain ⟨w', h1, _, h3⟩ :=
    C04_fresh_with_writes wEx_inv cfgEx_ok histW_ok histW_scoped histW_noClone (by decide)
  refine ⟨w', h1, fun a s s' g g' => ?_⟩
  obtain ⟨L, r, he, hp, _⟩ := h3 a s s' g g'
  exact ⟨L, r, he, hp⟩

/-- C04 for all operations on `histEx` itself (with its `cloneSwitch`). -/
example : ∃ w', run cfgEx wEx histEx = some w'
    ∧ ∀ (a : Nat) (s s' : Storage Nat), wEx.archs[a]? = some s → w'.archs[a]? = some s' →
        ∃ L, LReach cfgEx s L s' ∧ OpsEmit a histEx L
          ∧ ∃ (overwritten : List Nat) (srcs : List (Storage Nat)),
              overwritten.length = (L.filter Lbl.isWrite).length
            ∧ srcs.length = (cloneFns L).length
            ∧ (owned s' ++ destroyedRows L ++ overwritten ++ srcs.flatMap owned).Perm
                (owned s ++ createdRows L ++ writtenVals L ++ clonedVals (cloneFns L) srcs) := by
  obtain ⟨w', h1, _, h3⟩ := C04_all_histories_all_ops wEx_inv cfgEx_ok histEx_ok histEx_scoped
  refine ⟨w', h1, fun a s s' g g' => ?_⟩
  obtain ⟨L, r, he, _, ov, srcs, _, hl, hs, _, hp, _⟩ := h3 a s s' g g'
  exact ⟨L, r, he, ov, srcs, hl, hs, hp⟩

end WorldEx
end Gecs

section
open Gecs
#print axioms C04_all_histories_with_writes
#print axioms C04_all_histories_all_ops
#print axioms C04_fresh_with_writes
#print axioms OpsEmit.noClone
end
