/-
C13 — A cloned world is observationally identical and thereafter independent.
Model: `cloneStorage` copies what the code copies (all `capacity` slots, the `len`-prefix
of handles and columns, the scalar fields, the event vectors).  Identity is proved;
INDEPENDENCE is trivial in a functional model (values are not shared) and is therefore not
exhibited by the model: it rests on the tie (clone-and-diverge phases of harness/rt with
probes on both worlds, drop in both orders with the registry; thorough: under Miri).
World-history form: Props/Histories.lean (C13_all_histories).
-/
import Gecs.Lemmas.Values
import Gecs.Lemmas.Ownership

-- OBLIGATIONS: Gecs.C13_identical_fields Gecs.C13_identical_lookups Gecs.C13_equal_values
-- OBLIGATIONS: Gecs.C13_refill Gecs.C13_disjoint_values Gecs.cloneStorage_spec Gecs.cloneStorage_inv

namespace Gecs
variable {α : Type}

/-- Same len, capacity, version (hence the same direct handles), handles, free list and
pending events; every row is the clone of the source row. -/
theorem C13_identical_fields {cfg : Cfg} {s s' s₀ : Storage α} {cl : α → α} (h : Inv cfg s)
    (hc : cloneStorage cl s = .ok s' s₀) :
    s₀ = s ∧ s'.ents = s.ents ∧ s'.slots = s.slots ∧ s'.len = s.len
      ∧ s'.capacity = s.capacity ∧ s'.version = s.version ∧ s'.freeHead = s.freeHead
      ∧ s'.created = s.created ∧ s'.destroyed = s.destroyed
      ∧ (∀ d, rowAt s' d = (rowAt s d).map cl) := by
  rw [cloneStorage_spec h] at hc
  cases hc
  exact ⟨rfl, rfl, rfl, rfl, rfl, rfl, rfl, rfl, rfl, fun d => rowAt_clone s cl d⟩

/-- Every lookup — by `Entity` words or by direct `(index, version)` words, for ANY words —
answers on the clone exactly as on the original, and resolves to the cloned values. -/
theorem C13_identical_lookups {cfg : Cfg} {s s' s₀ : Storage α} {cl : α → α} (h : Inv cfg s)
    (hc : cloneStorage cl s = .ok s' s₀) :
    Inv cfg s'
      ∧ (∀ e, resolveEntity cfg s' e = (resolveEntity cfg s e).withState s')
      ∧ (∀ d v, resolveDirect cfg s' d v = (resolveDirect cfg s d v).withState s')
      ∧ (∀ e, valueOf s' e = (valueOf s e).map (·.map cl))
      ∧ (∀ d, readRow s' d = (readRow s d).map (·.map cl)) :=
  clone_lookups h hc

/-- For any observation that `Clone` preserves (`obs (clone x) = obs x`: "equal component
values"), both worlds show the same values. -/
theorem C13_equal_values {β : Type} {cfg : Cfg} {s s' s₀ : Storage α} {cl : α → α} (h : Inv cfg s)
    (hc : cloneStorage cl s = .ok s' s₀) (obs : α → β) (hobs : ∀ x, obs (cl x) = obs x) (e : Ent) :
    (valueOf s' e).map (·.map obs) = (valueOf s e).map (·.map obs) := by
  rw [cloneStorage_spec h] at hc
  cases hc
  rw [valueOf_clone]
  cases valueOf s e with
  | none => rfl
  | some r =>
    simp only [Option.map_some, List.map_map]
    congr 1
    apply List.map_congr_left
    intro x _; exact hobs x

/-- The clone can be refilled to capacity without growing. -/
theorem C13_refill {cfg : Cfg} {s s' s₀ : Storage α} {cl : α → α} (h : Inv cfg s)
    (hc : cloneStorage cl s = .ok s' s₀) (rws : List (List α))
    (hk : rws.length ≤ s.capacity - s.len) :
    ∃ es s'', pushWithinN cfg s' rws = .ok (es.map some) s'' ∧ es.length = rws.length
      ∧ Inv cfg s'' ∧ s''.len = s.len + rws.length ∧ s''.capacity = s.capacity
      ∧ s''.ents = s.ents ++ es ∧ s''.version = s.version :=
  clone_refill h hc rws hk

/-- The two worlds own disjoint values when `Clone` produces fresh ones. -/
theorem C13_disjoint_values {cfg : Cfg} {s s' s₀ : Storage α} {cl : α → α} (h : Inv cfg s)
    (hc : cloneStorage cl s = .ok s' s₀) (hfresh : ∀ x ∈ owned s, ∀ y ∈ owned s, cl x ≠ y) :
    ∀ z ∈ owned s', z ∉ owned s₀ := by
  obtain ⟨h1, h2⟩ := cloneStorage_owned h hc
  intro z hz hz0
  rw [h1] at hz
  rw [h2] at hz0
  obtain ⟨x, hx, rfl⟩ := List.mem_map.mp hz
  exact hfresh x hx _ hz0 rfl

end Gecs

#print axioms Gecs.C13_identical_fields
#print axioms Gecs.C13_equal_values
