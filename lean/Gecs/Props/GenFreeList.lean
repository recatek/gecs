/-
`Slot::populate_free_list` / `Slot::new_free` TRANSLATED (Gen/Steps.lean: `populateT`,
`slotNewFreeFields`): obligation lists for Lemmas/GenFreeList.lean.  With it every function of
the slot map's bookkeeping (`slot.rs`, the `StorageN` impl of `storage.rs`) is tied to the model
by translation + proof; what remains hand-modelled below the API is `DataPtr`'s allocation.
-/
import Gecs.Lemmas.GenFreeList

-- OBLIGATIONS(C12): Gecs.gen_populate Gecs.gen_populate_empty
-- OBLIGATIONS(C08): Gecs.gen_populate
-- OBLIGATIONS(C01): Gecs.gen_populate

namespace Gecs

/-- Non-vacuity: growing a full 2-slot storage to 5 slots keeps the two old cells and chains 2 → 3 → 4 → end. -/
example : execPopulate Gen.populateT Gen.slotNewFreeFields 16 2 5 [⟨.data 0, 3⟩, ⟨.data 1, 1⟩]
    = some ([⟨.data 0, 3⟩, ⟨.data 1, 1⟩, ⟨.free 3, 1⟩, ⟨.free 4, 1⟩, ⟨.freeEnd, 1⟩], .free 2) := by decide +kernel

end Gecs
