/-
C15 — Archetype and component ids follow the discriminant rule and are unique.
Model: Gecs/Model/Macro.lean (`DWorld.new`, `advanceId`), tied to macros/src/data.rs by
harness/mac.  Statements for ALL declarations: any number of archetypes/components, any
subset of explicit ids in any order, cfg-disabled items consume no id.
-/
import Gecs.Lemmas.MacIds
import Gecs.Lemmas.MacCfgWorld

-- OBLIGATIONS: Gecs.Mac.C15_rule Gecs.Mac.C15_unique Gecs.Mac.C15_u8 Gecs.Mac.C15_ok_iff
-- OBLIGATIONS: Gecs.Mac.C15_duplicate_error Gecs.Mac.C15_exceeds_error Gecs.Mac.C15_disabled_consume_no_id
-- OBLIGATIONS: Gecs.Mac.ids_rule_comps Gecs.Mac.duplicateAt_iff Gecs.Mac.exceedsAt_iff

namespace Gecs.Mac

/-- The ids of the enabled archetypes are the enum discriminants of their explicit ids
(explicit value, otherwise previous + 1, otherwise 0), names and order are kept, and each
archetype's components are what `buildComps` makes of its own declaration, started afresh
(`[] none`); that this is the same rule over the enabled components is `ids_rule_comps`. -/
theorem C15_rule {w : PWorld} {l : CfgLookup} {d : DWorld} (h : DWorld.new w l = .ok d) :
    d.archs.map (·.id) = discriminants ((enabledArchs l w.archs).map (·.id)) none ∧
    d.archs.map (·.name) = (enabledArchs l w.archs).map (·.name) ∧
    d.name = w.name ∧
    d.archs.map (fun a => (.ok a.comps : Except NewErr (List DComp))) =
      (enabledArchs l w.archs).map (fun a => buildComps l a.comps [] none) := by
  obtain ⟨ha, hn⟩ := DWorld_new_ok_iff.mp h
  obtain ⟨h1, h2, h3⟩ := buildArchs_rule ha
  exact ⟨h2, h1, hn, h3⟩

/-- Ids are pairwise distinct within their scope: archetype ids in the world, component ids
within each archetype. -/
theorem C15_unique {w : PWorld} {l : CfgLookup} {d : DWorld} (h : DWorld.new w l = .ok d) :
    (d.archs.map (·.id)).Nodup ∧ ∀ a ∈ d.archs, (a.comps.map (·.id)).Nodup := by
  have ha := (DWorld_new_ok_iff.mp h).1
  refine ⟨assignIds_ok_nodup (buildArchs_ok ha).2.1, fun a hmem => ?_⟩
  obtain ⟨pa, _, hb⟩ := archs_origin h a hmem
  exact assignIds_ok_nodup (buildComps_ok hb).2.1

/-- Ids fit a `u8` (explicit ids are parsed as `u8`, hence the hypotheses). -/
theorem C15_u8 {w : PWorld} {l : CfgLookup} {d : DWorld}
    (harch : ∀ a ∈ w.archs, ∀ n, a.id = some n → n ≤ 255)
    (hcomp : ∀ a ∈ w.archs, ∀ c ∈ a.comps, ∀ n, c.id = some n → n ≤ 255)
    (h : DWorld.new w l = .ok d) :
    ∀ a ∈ d.archs, a.id ≤ 255 ∧ ∀ c ∈ a.comps, c.id ≤ 255 := by
  have ha := (DWorld_new_ok_iff.mp h).1
  intro a hmem
  obtain ⟨pa, hpa, hb⟩ := archs_origin h a hmem
  constructor
  · refine assignIds_ok_le_255 (buildArchs_ok ha).2.1 (fun k hk => ?_) _ (List.mem_map_of_mem hmem)
    rw [archItems_map_fst] at hk
    obtain ⟨pa', hpa', hk⟩ := List.mem_map.mp hk
    exact harch pa' (List.mem_filter.mp hpa').1 k hk
  · intro c hc
    refine assignIds_ok_le_255 (buildComps_ok hb).2.1 (fun k hk => ?_) _ (List.mem_map_of_mem hc)
    rw [compItems_map_fst] at hk
    obtain ⟨pc, hpc, hk⟩ := List.mem_map.mp hk
    exact hcomp pa (List.mem_filter.mp hpa).1 pc (List.mem_filter.mp hpc).1 k hk

/-- A declaration is accepted iff every cfg list that is reached can be evaluated (always the case
in the pipeline: `expandWorld_ne_missingCfg`) and no enabled item would duplicate an id or count
past 255. -/
theorem C15_ok_iff (w : PWorld) (l : CfgLookup) :
    (∃ d, DWorld.new w l = .ok d) ↔
      (∀ a ∈ w.archs, evaluateCfgs l a.cfgs ≠ none) ∧
      (∀ a ∈ enabledArchs l w.archs, ∀ c ∈ a.comps, evaluateCfgs l c.cfgs ≠ none) ∧
      noOverflow ((enabledArchs l w.archs).map (·.id)) none = true ∧
      (discriminants ((enabledArchs l w.archs).map (·.id)) none).Nodup ∧
      ∀ a ∈ enabledArchs l w.archs,
        noOverflow ((enabledComps l a.comps).map (·.id)) none = true ∧
        (discriminants ((enabledComps l a.comps).map (·.id)) none).Nodup :=
  ids_ok_iff w l

/-- A duplicate is reported on the LATER of two items with the same id `n` and names the earlier
holder; the two items are either two enabled archetypes or two enabled components of one enabled
archetype, and `later` is the first item of its sequence at which anything goes wrong. -/
theorem C15_duplicate_error {w : PWorld} {l : CfgLookup} {n : Nat} {later earlier : String}
    (h : DWorld.new w l = .error (.id (.duplicate n later earlier))) :
    DuplicateAt (archItems (enabledArchs l w.archs)) n later earlier ∨
    ∃ a ∈ enabledArchs l w.archs,
      DuplicateAt (compItems (enabledComps l a.comps)) n later earlier := by
  rcases buildArchs_error_id (DWorld_new_error_iff.mp h) with h' | ⟨a, ha, h'⟩
  · exact .inl (duplicateAt_iff.mp h')
  · exact .inr ⟨a, ha, duplicateAt_iff.mp (buildComps_error_id h')⟩

/-- `.id (.exceeds item)` names the item (enabled archetype, or enabled component of an enabled
archetype) without explicit id whose implicit id would be `256` (in general `> 255`; exactly
`256` when explicit ids are `u8`). -/
theorem C15_exceeds_error {w : PWorld} {l : CfgLookup} {item : String}
    (h : DWorld.new w l = .error (.id (.exceeds item))) :
    ExceedsAt (archItems (enabledArchs l w.archs)) item ∨
    ∃ a ∈ enabledArchs l w.archs, ExceedsAt (compItems (enabledComps l a.comps)) item := by
  rcases buildArchs_error_id (DWorld_new_error_iff.mp h) with h' | ⟨a, ha, h'⟩
  · exact .inl (exceedsAt_iff.mp h')
  · exact .inr ⟨a, ha, exceedsAt_iff.mp (buildComps_error_id h')⟩

/-- cfg-disabled items must not consume an id: the result under an assignment `ρ` is the
result for the declaration with the disabled items deleted. -/
theorem C15_disabled_consume_no_id (w : PWorld) (ρ : String → Bool) :
    expandWorld w ρ = expandWorld (eraseWorld ρ w) (fun _ => true) :=
  world_erasure w ρ

-- non-vacuity: descending explicit ids, collision with an implicit successor, 255 + 1
example : discriminants [some 5, none, some 2, none] none = [5, 6, 2, 3] := by rfl
example : noOverflow [some 255, none] none = false := by rfl
example : (discriminants [none, some 0] none).Nodup = False := by decide

end Gecs.Mac

section
open Gecs
#print axioms Mac.C15_rule
#print axioms Mac.C15_unique
#print axioms Mac.C15_u8
#print axioms Mac.C15_duplicate_error
#print axioms Mac.C15_exceeds_error
end
