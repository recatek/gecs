/-
C03 — Arbitrary, forged or foreign handles are memory-safe and never match by accident.
Models: Gecs/Model/Storage.lean (`resolveEntity`/`resolveDirect` = storage.rs
`StorageN::resolve_entity`/`resolve_direct`, with every `get_unchecked`/`unwrap_unchecked`/
`debug_checked_assume!` whose precondition fails answered by `Out.ub`; `forceCreate`,
`forceDestroy` = `force_create`, `force_destroy`), Gecs/Model/World.lean (`Key`, `Key.archId`,
`Key.index`, `mkKey` = the key packing of entity.rs; `tryFromAny`, `fromAnyUnchecked` = the
checked / unchecked conversions; `routeArch`, `routeWorld`, `KeyUse.route`,
`World.contains/toDirect/fetch/destroy` = the dispatch generated by
macros/src/generate/world.rs and the `Archetype::*` entry points) and
Gecs/Model/History.lean (`Op`, `stepOp`, `run`).  Tied to the Rust code by the
`forge`/`probe`/`todirect`/`find`/`findb`/`destroy` lines of harness/rt, which feed the same
arbitrary 64-bit handle values to the driver and to the crate (`forge` makes them; a `probe`
line is what `contains`, `resolve`, `to_direct`, `view`, `borrow` answer for one of them).

A key use `u : KeyUse` carries ARBITRARY words `u.h.key = (key : u32, version : u32)`, as a
typed key (`Entity<A>`/`EntityDirect<A>` built with `from_any_unchecked`, so any words can be
carried) or as a dynamic key (`EntityAny`/`EntityDirectAny`), at archetype level or at world
level.  The only hypothesis on uses is the static scoping of typed uses (`KeyUse.Scoped`: the
type `A` exists), vacuous for dynamic uses.  "Memory-safe" = the model never answers `ub`.
Known finding F3 (release builds, typed keys made with `from_any_unchecked` from a handle of
ANOTHER archetype): see `C03_typed_unchecked_partial` and `C03_unchecked_witness`.
-/
import Gecs.Lemmas.CheckSound
import Gecs.Lemmas.WorldHistory
import Gecs.Lemmas.GenTie
import Gecs.Lemmas.Bits

-- OBLIGATIONS: Gecs.C03_no_ub_histories Gecs.C03_no_ub_lookups Gecs.C03_no_ub_lookups_dynamic
-- OBLIGATIONS: Gecs.C03_no_ub_lookups_history
-- OBLIGATIONS: Gecs.C03_dynamic_match_is_bit_identical Gecs.C03_dynamic_fetch_is_bit_identical
-- OBLIGATIONS: Gecs.C03_typed_debug_match_is_bit_identical Gecs.C03_typed_matching_id_is_bit_identical
-- OBLIGATIONS: Gecs.C03_typed_unchecked_partial Gecs.C03_unchecked_witness
-- OBLIGATIONS: Gecs.C03_direct_match_is_current Gecs.C03_unknown_id Gecs.C03_unknown_id_lookups
-- OBLIGATIONS: Gecs.gen_free_bit Gecs.gen_free_list_end Gecs.gen_slot_encoding_sound Gecs.gen_max_capacity Gecs.decode_encode Gecs.Key.index_lt
-- OBLIGATIONS: Gecs.invCheck_iff

namespace Gecs
variable {α : Type}

/-- Every well-formed history — of any length, with ARBITRARY handle words in every
`destroy`/`write`/`find`, arbitrary closures, continuing after every panic — never reaches
`ub` (`run` is `some _`), at no point (every prefix runs, into a world satisfying the
invariant), and the invariant, the ids and the schema hold at the end. -/
theorem C03_no_ub_histories {cfg : Cfg} {w : World α} {ops : List (Op α)} (hw : WInv cfg w)
    (hc : CfgOk cfg) (ho : OpsOk cfg ops) (hs : OpsScoped w.sch ops) :
    (∃ w', run cfg w ops = some w' ∧ WInv cfg w' ∧ w'.ids = w.ids
        ∧ w'.archs.length = w.archs.length ∧ w'.sch = w.sch)
    ∧ (∀ ops₁ ops₂, ops = ops₁ ++ ops₂ → ∃ w₁, run cfg w ops₁ = some w₁ ∧ WInv cfg w₁) := by
  constructor
  · obtain ⟨w', h1, r⟩ := run_rel ops w hw ho hs
    exact ⟨w', h1, r.winv, r.ids, r.len, r.sch_eq⟩
  · rintro ops₁ ops₂ rfl
    obtain ⟨w₁, _, h1, _, _, r₁, _⟩ := run_prefix hw ho hs
    exact ⟨w₁, h1, r₁.winv⟩

/-- Every lookup through ANY key use (forged, stale, foreign words; any kind; a typed key with
a mismatching id; either level): `ok` or `panic`, in the SAME world, never `ub`. -/
theorem C03_no_ub_lookups {cfg : Cfg} {w : World α} (hw : WInv cfg w) (u : KeyUse)
    (hu : u.Scoped w.archs.length) (direct : Bool) :
    ((∃ r, w.contains cfg (u.route cfg w.ids) direct = .ok r w)
      ∨ (∃ m, w.contains cfg (u.route cfg w.ids) direct = .panic m w))
    ∧ ((∃ r, w.toDirect cfg (u.route cfg w.ids) direct = .ok r w)
      ∨ (∃ m, w.toDirect cfg (u.route cfg w.ids) direct = .panic m w))
    ∧ ((∃ r, w.fetch cfg (u.route cfg w.ids) direct = .ok r w)
      ∨ (∃ m, w.fetch cfg (u.route cfg w.ids) direct = .panic m w)) :=
  ⟨contains_safe hw u hu direct, toDirect_safe hw u hu direct, fetch_safe hw u hu direct⟩

/-- Unconditional form for dynamic keys: any 64-bit value, any state satisfying the
invariant. -/
theorem C03_no_ub_lookups_dynamic {cfg : Cfg} {w : World α} (hw : WInv cfg w) (u : KeyUse)
    (ht : u.typed = false) (direct : Bool) :
    ((∃ r, w.contains cfg (u.route cfg w.ids) direct = .ok r w)
      ∨ (∃ m, w.contains cfg (u.route cfg w.ids) direct = .panic m w))
    ∧ ((∃ r, w.toDirect cfg (u.route cfg w.ids) direct = .ok r w)
      ∨ (∃ m, w.toDirect cfg (u.route cfg w.ids) direct = .panic m w))
    ∧ ((∃ r, w.fetch cfg (u.route cfg w.ids) direct = .ok r w)
      ∨ (∃ m, w.fetch cfg (u.route cfg w.ids) direct = .panic m w)) :=
  C03_no_ub_lookups hw u (KeyUse.scoped_of_untyped ht) direct

/-- `C03_no_ub_lookups` in the world reached by any history, for every well-scoped key use (every
dynamic one in particular). -/
theorem C03_no_ub_lookups_history {cfg : Cfg} {w₀ : World α} {ops : List (Op α)}
    (hw₀ : WInv cfg w₀) (hc : CfgOk cfg) (ho : OpsOk cfg ops) (hs : OpsScoped w₀.sch ops) :
    ∃ w, run cfg w₀ ops = some w ∧ ∀ (u : KeyUse), u.Scoped w₀.archs.length → ∀ direct,
      ((∃ r, w.contains cfg (u.route cfg w.ids) direct = .ok r w)
        ∨ (∃ m, w.contains cfg (u.route cfg w.ids) direct = .panic m w))
      ∧ ((∃ r, w.toDirect cfg (u.route cfg w.ids) direct = .ok r w)
        ∨ (∃ m, w.toDirect cfg (u.route cfg w.ids) direct = .panic m w))
      ∧ ((∃ r, w.fetch cfg (u.route cfg w.ids) direct = .ok r w)
        ∨ (∃ m, w.fetch cfg (u.route cfg w.ids) direct = .panic m w)) := by
  obtain ⟨w, h1, r⟩ := run_rel ops w₀ hw₀ ho hs
  exact ⟨w, h1, fun u hu direct => C03_no_ub_lookups r.winv u (r.len ▸ hu) direct⟩

/-! ## An accepted key is bit-identical to the live entity's handle -/

/-- Core: a use accepted by `contains`/`resolve` as an `Entity` key at dense index `d` was routed,
with the words it carries, to an archetype that holds these very words (index and generation) at
`d`.  Whenever that archetype's declared id is the key's id byte, the key therefore IS the stored
handle (`Key.eq_mkKey`); the theorems below differ in where that equality of ids comes from. -/
theorem KeyUse.accepted_ent {cfg : Cfg} {w : World α} (hw : WInv cfg w) (u : KeyUse) {d : Nat}
    (h : w.contains cfg (u.route cfg w.ids) false = .ok (some d) w) :
    ∃ a s, u.route cfg w.ids = .arch a u.h.key ∧ w.archs[a]? = some s
      ∧ s.ents[d]? = some u.h.key.toEnt := by
  obtain ⟨a, k, hr⟩ := lookup_ok_some_arch h
  obtain rfl := route_key hr
  rw [hr] at h ⊢
  obtain ⟨s, g, hd⟩ := (contains_ent_iff hw a _ d).mp h
  exact ⟨a, s, rfl, g, hd⟩

/-- If a DYNAMIC key use (world level or archetype level, any words) is accepted by
`contains`/`resolve` at dense index `d`, it was routed to the archetype `a` whose id is the
key's id byte, and the key's words are exactly the handle of the live entity stored there:
`u.h.key = mkKey e.slot id e.ver` — same index, same id, same generation. -/
theorem C03_dynamic_match_is_bit_identical {cfg : Cfg} {w : World α} (hw : WInv cfg w)
    (u : KeyUse) (ht : u.typed = false) {d : Nat}
    (h : w.contains cfg (u.route cfg w.ids) false = .ok (some d) w) :
    ∃ a s e id, u.route cfg w.ids = .arch a u.h.key ∧ w.archs[a]? = some s
      ∧ w.ids[a]? = some id ∧ s.ents[d]? = some e ∧ u.h.key = mkKey e.slot id e.ver := by
  obtain ⟨a, s, hr, g, hd⟩ := u.accepted_ent hw h
  exact ⟨a, s, _, _, hr, g, (route_dynamic_to ht hr).2, hd, Key.eq_mkKey _⟩

/-- `C03_dynamic_match_is_bit_identical` for `view`/`borrow`/`ecs_find!`: the entity handed out
to a dynamic key is the one whose handle is bit-identical to the key. -/
theorem C03_dynamic_fetch_is_bit_identical {cfg : Cfg} {w w' : World α} (hw : WInv cfg w)
    (u : KeyUse) (ht : u.typed = false) {d : Nat} {e : Ent} {row : List α}
    (h : w.fetch cfg (u.route cfg w.ids) false = .ok (some (d, e, row)) w') :
    w' = w ∧ ∃ a s id, u.route cfg w.ids = .arch a u.h.key ∧ w.archs[a]? = some s
      ∧ w.ids[a]? = some id ∧ s.ents[d]? = some e ∧ readRow s d = some row
      ∧ u.h.key = mkKey e.slot id e.ver := by
  obtain ⟨h1, a, k, s, hr, g, hd, hrow, he, _⟩ := fetch_ok hw h
  obtain ⟨rfl, hid⟩ := route_dynamic_to ht hr
  obtain rfl := he rfl
  exact ⟨h1, a, s, _, hr, g, hid, hd, hrow, Key.eq_mkKey _⟩

/-- Typed keys in DEBUG builds: the `debug_assert!` of `from_any_unchecked` forces the id, so
an accepted typed key is bit-identical to the live entity's handle as well. -/
theorem C03_typed_debug_match_is_bit_identical {cfg : Cfg} {w : World α} (hw : WInv cfg w)
    (hdbg : cfg.debug = true) (u : KeyUse) (ht : u.typed = true) {d : Nat}
    (h : w.contains cfg (u.route cfg w.ids) false = .ok (some d) w) :
    ∃ a s e id, u.route cfg w.ids = .arch a u.h.key ∧ w.archs[a]? = some s
      ∧ w.ids[a]? = some id ∧ s.ents[d]? = some e ∧ u.h.key = mkKey e.slot id e.ver := by
  obtain ⟨a, s, hr, g, hd⟩ := u.accepted_ent hw h
  have hid : w.ids[a]? = some u.h.key.archId :=
    getElem?_of_getD_lt ((route_typed_arch ht hr).2.2 hdbg).symm (Key.archId_lt _)
  exact ⟨a, s, _, _, hr, g, hid, hd, Key.eq_mkKey _⟩

/-- Typed keys whose id byte is the static archetype's id (every typed key obtained from the
API; every `from_any_unchecked` of a handle of the right archetype), in ANY build. -/
theorem C03_typed_matching_id_is_bit_identical {cfg : Cfg} {w : World α} (hw : WInv cfg w)
    (u : KeyUse) (ht : u.typed = true)
    (hid : w.ids[u.at_.getD u.h.a]? = some u.h.key.archId) {d : Nat}
    (h : w.contains cfg (u.route cfg w.ids) false = .ok (some d) w) :
    ∃ s e id, u.route cfg w.ids = .arch (u.at_.getD u.h.a) u.h.key
      ∧ w.archs[u.at_.getD u.h.a]? = some s ∧ w.ids[u.at_.getD u.h.a]? = some id
      ∧ s.ents[d]? = some e ∧ u.h.key = mkKey e.slot id e.ver := by
  obtain ⟨a, s, hr, g, hd⟩ := u.accepted_ent hw h
  obtain rfl := (route_typed_arch ht hr).1
  exact ⟨s, _, _, hr, g, hid, hd, Key.eq_mkKey _⟩

/-! ## Known finding F3: typed keys made by `from_any_unchecked` in release builds

Full-strength statement (FALSE in release builds, see `C03_unchecked_witness`):

  theorem C03_typed_unchecked (hw : WInv cfg w) (u : KeyUse) (ht : u.typed = true)
      (h : w.contains cfg (u.route cfg w.ids) false = .ok (some d) w) :
      ∃ a s e id, u.route cfg w.ids = .arch a u.h.key ∧ w.archs[a]? = some s
        ∧ w.ids[a]? = some id ∧ s.ents[d]? = some e ∧ u.h.key = mkKey e.slot id e.ver

It holds in debug builds (`C03_typed_debug_match_is_bit_identical`) and for keys whose id byte
is the static archetype's (`C03_typed_matching_id_is_bit_identical`).  What is missing in the
remaining case — `cfg.debug = false` and a typed key whose id byte differs from its static
archetype's id, which only `from_any_unchecked` (documented as a possible logic error, not
`unsafe`) can produce — is the equality of the id byte: the lookup is still memory-safe
(`C03_no_ub_lookups`) and agrees with a live entity of the STATIC archetype on
`(index, generation)`, but the key is not that entity's handle. -/

/-- In every build, an accepted typed key was looked up in its static archetype and agrees
with the live entity stored at the returned dense index on `(index, generation)`. -/
theorem C03_typed_unchecked_partial {cfg : Cfg} {w : World α} (hw : WInv cfg w)
    (u : KeyUse) (ht : u.typed = true) {d : Nat}
    (h : w.contains cfg (u.route cfg w.ids) false = .ok (some d) w) :
    ∃ s e, u.route cfg w.ids = .arch (u.at_.getD u.h.a) u.h.key
      ∧ w.archs[u.at_.getD u.h.a]? = some s ∧ s.ents[d]? = some e
      ∧ u.h.key.index = e.slot ∧ u.h.key.ver = e.ver := by
  obtain ⟨a, s, hr, g, hd⟩ := u.accepted_ent hw h
  obtain rfl := (route_typed_arch ht hr).1
  exact ⟨s, _, hr, g, hd, rfl, rfl⟩

/-- Release-build configuration of the witness (no debug assertions). -/
def c03cfgRel : Cfg := ⟨8, 5, false, true, false⟩

-- `cfgEx` and `c03cfgRel` differ only in `debug`, which `Inv` does not mention
theorem c03w2_winv : WInv c03cfgRel WorldEx.w2 :=
  { WorldEx.w2_winv with inv := fun s hs => { WorldEx.w2_winv.inv s hs with } }

/-- The witness of F3: in the release build `c03cfgRel`, in the world `w2` (archetype 0 has id
3 and holds the entity with handle `mkKey 0 3 1` at dense index 0), the handle `mkKey 0 7 1` of
archetype 1's entity, carried by a typed key of archetype 0, is accepted at dense index 0
although it is not bit-identical to the reached entity's handle.  (In the debug build `cfgEx`
the same use panics at the `debug_assert!`.) -/
theorem C03_unchecked_witness :
    ∃ (u : KeyUse) (d : Nat) (s : Storage Nat) (e : Ent) (id : Nat),
      c03cfgRel.debug = false ∧ WInv c03cfgRel WorldEx.w2 ∧ u.typed = true
      ∧ u.Scoped WorldEx.w2.archs.length
      ∧ WorldEx.w2.contains c03cfgRel (u.route c03cfgRel WorldEx.w2.ids) false
          = .ok (some d) WorldEx.w2
      ∧ WorldEx.w2.archs[u.at_.getD u.h.a]? = some s
      ∧ WorldEx.w2.ids[u.at_.getD u.h.a]? = some id ∧ s.ents[d]? = some e
      ∧ u.h.key ≠ mkKey e.slot id e.ver
      ∧ WorldEx.w2.contains StorageEx.cfgEx (u.route StorageEx.cfgEx WorldEx.w2.ids) false
          = .panic "debug_assert: from_any_unchecked" WorldEx.w2 :=
  ⟨⟨true, true, ⟨.ent, 0, mkKey 0 7 1⟩, none⟩, 0, StorageEx.holeEx, ⟨0, 1⟩, 3,
    rfl, c03w2_winv, rfl, fun _ => (by decide : 0 < 2), rfl, rfl, rfl, rfl, by decide, rfl⟩

/-- Direct keys (any use, any build): an accepted direct key was routed to an archetype `a`
and carries exactly `(d, current archetype version)` — the `(index, version)` that `to_direct`
issues NOW for the entity stored at `d`; a dynamic direct key is bit-identical to that
issued handle. -/
theorem C03_direct_match_is_current {cfg : Cfg} {w : World α} (hw : WInv cfg w) (u : KeyUse)
    {d : Nat} (h : w.contains cfg (u.route cfg w.ids) true = .ok (some d) w) :
    ∃ a s e id, u.route cfg w.ids = .arch a u.h.key ∧ w.archs[a]? = some s
      ∧ w.ids[a]? = some id ∧ s.ents[d]? = some e
      ∧ u.h.key.index = d ∧ u.h.key.ver = s.version
      ∧ w.toDirect cfg (.arch a (mkKey e.slot id e.ver)) false
          = .ok (some (mkKey d id s.version)) w
      ∧ (u.typed = false → u.h.key = mkKey d id s.version) := by
  obtain ⟨a, k, hr⟩ := lookup_ok_some_arch h
  rw [hr] at h ⊢
  obtain rfl := route_key hr
  obtain ⟨s, g, h1, h2, h3⟩ := (contains_dir_iff hw a u.h.key d).mp h
  obtain ⟨id, hid⟩ := getElem?_some_of_length_eq hw.idsLen g
  have hlt : d < s.ents.length := by rw [(hw.get g).entsLen]; exact h3
  have he : s.ents[d]? = some s.ents[d] := List.getElem?_eq_getElem hlt
  refine ⟨a, s, s.ents[d], id, rfl, g, hid, he, h1.symm, h2,
    toDirect_own_handle hw g hid he, ?_⟩
  intro ht
  obtain rfl : id = u.h.key.archId := Option.some.inj (hid.symm.trans (route_dynamic_to ht hr).2)
  rw [h1, ← h2]
  exact Key.eq_mkKey u.h.key

/-! ## Unknown archetype ids -/

/-- A dynamic key whose id byte is not a declared archetype id: the world-level `match` takes
the wildcard arm — a clean panic "invalid entity type" —, the archetype-level `try_from`
fails — `None`. -/
theorem C03_unknown_id {cfg : Cfg} {ids : List Nat} (h : Handle) (hk : h.kind.isTyped = false)
    (hid : h.key.archId ∉ ids) (b : Nat) :
    routeWorld cfg ids h = .panic "invalid entity type" ∧ routeArch ids b h = .absent := by
  constructor
  · have hsel := (selectArch_none_iff ids h.key.archId).mpr hid
    simp only [routeWorld, hk, Bool.false_eq_true, if_false, hsel]
  · simp only [routeArch, hk, Bool.false_eq_true, if_false, tryFromAny,
      if_neg (Key.archId_ne_getD hid b)]

/-- Every world-level lookup and `destroy` with a dynamic key whose id byte is not declared panics
with "invalid entity type" in an unchanged world, and every archetype-level one answers
`None`/`false`. -/
theorem C03_unknown_id_lookups {cfg : Cfg} {w : World α} (u : KeyUse) (ht : u.typed = false)
    (hid : u.h.key.archId ∉ w.ids) (direct : Bool) :
    (u.worldLevel = true →
      u.route cfg w.ids = .panic "invalid entity type"
      ∧ w.contains cfg (u.route cfg w.ids) direct = .panic "invalid entity type" w
      ∧ w.toDirect cfg (u.route cfg w.ids) direct = .panic "invalid entity type" w
      ∧ w.fetch cfg (u.route cfg w.ids) direct = .panic "invalid entity type" w
      ∧ w.destroy cfg (u.route cfg w.ids) direct = .panic "invalid entity type" w)
    ∧ (u.worldLevel = false →
      u.route cfg w.ids = .absent
      ∧ w.contains cfg (u.route cfg w.ids) direct = .ok none w
      ∧ w.toDirect cfg (u.route cfg w.ids) direct = .ok none w
      ∧ w.fetch cfg (u.route cfg w.ids) direct = .ok none w
      ∧ w.destroy cfg (u.route cfg w.ids) direct = .ok none w) := by
  rw [route_unknown_id (cfg := cfg) ht hid]
  constructor <;>
  · intro hwl
    rw [hwl]
    exact ⟨rfl, rfl, rfl, rfl, rfl⟩

section Examples
open WorldEx StorageEx

-- the history `histEx` of Lemmas/StepRun.lean contains a stale key, a forged key with an
-- unknown id (panics, the history goes on) and a typed direct key
example : ∃ w', run cfgEx wEx histEx = some w' ∧ WInv cfgEx w' :=
  let ⟨w', h1, h2, _⟩ :=
    (C03_no_ub_histories wEx_inv cfgEx_ok histEx_ok histEx_scoped).1
  ⟨w', h1, h2⟩

-- a live dynamic key at world level is accepted …
example : w2.contains cfgEx
    (KeyUse.route cfgEx w2.ids ⟨true, false, ⟨.any, 0, mkKey 2 3 1⟩, none⟩) false
    = .ok (some 1) w2 := rfl
-- … and the theorem says its words are the stored entity's handle
theorem c03ex_accept : w2.contains cfgEx
    (KeyUse.route cfgEx w2.ids ⟨true, false, ⟨.any, 0, mkKey 2 3 1⟩, none⟩) false
    = .ok (some 1) w2 := rfl
example : ∃ (a : Nat) (s : Storage Nat) (e : Ent) (id : Nat), w2.archs[a]? = some s
    ∧ w2.ids[a]? = some id ∧ s.ents[1]? = some e ∧ mkKey 2 3 1 = mkKey e.slot id e.ver := by
  obtain ⟨a, s, e, id, _, h2, h3, h4, h5⟩ :=
    C03_dynamic_match_is_bit_identical w2_winv ⟨true, false, ⟨.any, 0, mkKey 2 3 1⟩, none⟩ rfl
      c03ex_accept
  exact ⟨a, s, e, id, h2, h3, h4, h5⟩

-- a foreign handle (archetype 1's, id 7) as a dynamic key on archetype 0: refused
example : w2.contains cfgEx
    (KeyUse.route cfgEx w2.ids ⟨false, false, ⟨.any, 0, mkKey 0 7 1⟩, some 0⟩) false
    = .ok none w2 := rfl

-- unknown id 9
example : routeWorld cfgEx w2.ids ⟨.any, 0, mkKey 0 9 1⟩ = .panic "invalid entity type"
    ∧ routeArch w2.ids 0 ⟨.any, 0, mkKey 0 9 1⟩ = .absent :=
  C03_unknown_id ⟨.any, 0, mkKey 0 9 1⟩ rfl (by decide) 0

-- an accepted direct key
example : w2.contains cfgEx
    (KeyUse.route cfgEx w2.ids ⟨true, false, ⟨.dirAny, 0, mkKey 1 3 2⟩, none⟩) true
    = .ok (some 1) w2 := rfl

end Examples
end Gecs

section
open Gecs
#print axioms C03_no_ub_histories
#print axioms C03_no_ub_lookups
#print axioms C03_no_ub_lookups_dynamic
#print axioms C03_no_ub_lookups_history
#print axioms C03_dynamic_match_is_bit_identical
#print axioms C03_dynamic_fetch_is_bit_identical
#print axioms C03_typed_debug_match_is_bit_identical
#print axioms C03_typed_matching_id_is_bit_identical
#print axioms C03_typed_unchecked_partial
#print axioms C03_unchecked_witness
#print axioms C03_direct_match_is_current
#print axioms C03_unknown_id
#print axioms C03_unknown_id_lookups
end
