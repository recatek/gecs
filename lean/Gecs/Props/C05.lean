/-
C05 — Queries act on exactly the archetypes whose component set satisfies them.
Model: Gecs/Model/Macro.lean (`bindQueryParams`, `bindOneOf`, `generateQuery`), tied to
macros/src/generate/query.rs + data.rs by harness/mac; the run-time half ("a find on a live
entity of an unmatched archetype returns None without running the closure") is
`findQuery` in Gecs/Model/Query.lean, tied by harness/rt.
For ALL world declarations and ALL parameter lists (OneOf of any arity, any order);
`C05_matched_exactly` and `C05_generate` assume distinct archetype names (the binding table is
keyed by name; the macro crate itself does not check for repeated names).
Column binding ("that archetype's own column of that type") is name-based in the emitted
code and is decided by type-checking end-to-end (harness/rt query menu), not by the model.
-/
import Gecs.Lemmas.MacBind
import Gecs.Model.Query

-- OBLIGATIONS: Gecs.Mac.C05_matched_exactly Gecs.Mac.C05_bound_types Gecs.Mac.C05_error_iff
-- OBLIGATIONS: Gecs.Mac.C05_generate Gecs.Mac.C05_empty_is_error Gecs.Mac.bindOneOf_spec
-- OBLIGATIONS: Gecs.C05_find_unmatched_none

namespace Gecs.Mac

/-- The bound set is exactly the set of archetypes satisfying the parameter list
(every named component present, exactly one component of each OneOf, the named archetype of
`Entity<A>`/`EntityDirect<A>`), in declaration order. -/
theorem C05_matched_exactly {w : DWorld} {ps : List QParam} {r : List (String × List QParam)}
    (hn : (w.archs.map (·.name)).Nodup) (h : bindQueryParams w ps = .ok r) :
    (∀ a ∈ w.archs, ((∃ bs, (a.name, bs) ∈ r) ↔ Matches a ps)) ∧
    r.map (·.1) = (w.archs.filter (fun a => decide (Matches a ps))).map (·.name) ∧
    (∀ a ∈ w.archs, ∀ bs, (a.name, bs) ∈ r → bindArch a ps = .ok bs) :=
  bind_sound_complete hn h

/-- Every non-OneOf parameter is bound unchanged; a OneOf to the unique present component,
with the same mutability. -/
theorem C05_bound_types {a : DArch} {ps bound : List QParam} (h : bindArch a ps = .ok bound)
    (hl : bound.length = ps.length) :
    ∀ (i : Nat) (p b : QParam), ps[i]? = some p → bound[i]? = some b →
      b.cfgs = p.cfgs ∧ b.isMut = p.isMut ∧ b.enabled = p.enabled ∧
      (match p.ty with
       | .oneOf cs => ∃ c, b.ty = .comp c ∧ cs.filter a.contains = [c]
       | t => b.ty = t) := by
  intro i p b hp hb
  rw [bindArch_eq] at h
  obtain ⟨r, hr, rfl⟩ := filterMapE_getElem? h hl hp hb
  exact bindParam_some hr

/-- Binding fails iff some OneOf matches two components of one archetype, or carries a cfg while
there is an archetype to bind against (an empty world binds to `.ok []` whatever the parameters). -/
theorem C05_error_iff (w : DWorld) (ps : List QParam) :
    (∃ e, bindQueryParams w ps = .error e) ↔
      (w.archs ≠ [] ∧ ∃ p ∈ ps, (∃ cs, p.ty = .oneOf cs) ∧ p.cfgs ≠ []) ∨
      (∃ a ∈ w.archs, ∃ p ∈ ps, ∃ cs, p.ty = .oneOf cs ∧ (cs.filter a.contains).length ≥ 2) := by
  simp only [bindQueryParams_error_iff, bindArch_error_iff, bindParam_error_iff]
  constructor
  · rintro ⟨a, ha, p, hp, cs, hty, hc | hc⟩
    · left
      exact ⟨List.ne_nil_of_mem ha, p, hp, ⟨cs, hty⟩, hc⟩
    · right
      exact ⟨a, ha, p, hp, cs, hty, hc⟩
  · rintro (⟨hne, p, hp, ⟨cs, hty⟩, hc⟩ | ⟨a, ha, p, hp, cs, hty, hc⟩)
    · obtain ⟨a, ha⟩ := List.exists_mem_of_ne_nil _ hne
      exact ⟨a, ha, p, hp, cs, hty, Or.inl hc⟩
    · exact ⟨a, ha, p, hp, cs, hty, Or.inr hc⟩

/-- What the three generators emit code for: exactly the matching archetypes, in declaration
order, and there is at least one. -/
theorem C05_generate {w : DWorld} {ps : List QParam} {m : List (DArch × List QParam)}
    (hn : (w.archs.map (·.name)).Nodup) (h : generateQuery w ps = .ok m) :
    m.map (·.1) = w.archs.filter (fun a => decide (Matches a ps)) ∧ m ≠ [] := by
  obtain ⟨rfl, hne, _⟩ := generateQuery_closed hn h
  exact ⟨by simp [Function.comp_def], hne⟩

/-- A query that can match no archetype is rejected at compile time. -/
theorem C05_empty_is_error (w : DWorld) (ps : List QParam) :
    generateQuery w ps = .error .noMatch ↔
      (∃ r, bindQueryParams w ps = .ok r) ∧ ∀ a ∈ w.archs, ¬ Matches a ps := by
  cases hb : bindQueryParams w ps with
  | error e =>
    rw [generateQuery_of_bind_error hb]
    constructor
    · intro h
      cases h
      rcases bind_error_kind hb with h | ⟨_, _, _, h⟩ <;> cases h
    · rintro ⟨⟨r, hr⟩, _⟩; cases hr
  | ok bound =>
    obtain ⟨_, rfl⟩ := bind_closed hb
    -- the matched list is empty iff no archetype's name is a key of the table iff none matches
    simp only [generateQuery_of_bind_ok hb, ite_eq_left_iff, reduceCtorEq, imp_false,
      Decidable.not_not, Except.ok.injEq, exists_eq', true_and, List.filterMap_eq_nil_iff,
      Option.map_eq_none_iff, List.find?_eq_none, List.forall_mem_map, List.mem_filter,
      decide_eq_true_eq, beq_iff_eq, and_imp]
    exact ⟨fun h a ha hm => h a ha a ha hm rfl, fun h _ _ a' ha' hm => absurd hm (h a' ha')⟩

end Gecs.Mac

namespace Gecs
variable {α σ ρ : Type}

/-- A find on a key routed to an archetype that the query does not match returns `None`
without calling the closure and without touching the world. -/
theorem C05_find_unmatched_none (cfg : Cfg) (q : Query) (f : Closure σ α ρ) (h : Handle) (st : σ)
    (w : World α) (a : Nat) (k : Key) (hr : routeWorld cfg w.ids h = .arch a k)
    (hq : q.find? (fun qa => qa.a == a) = none) :
    findQuery cfg q f h st w = .ok none st w := by
  simp [findQuery, hr, hq]

end Gecs

section
open Gecs
#print axioms Mac.C05_bound_types
#print axioms Mac.C05_error_iff
#print axioms Mac.C05_generate
#print axioms Mac.C05_empty_is_error
end
