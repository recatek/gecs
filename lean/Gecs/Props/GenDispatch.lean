/-
The world-level key dispatch TRANSLATED from macros/src/generate/world.rs (Gen/Steps.lean:
`worldRows` — the twelve `WorldCanResolve<K>` method bodies —, `worldTryFrom` — the two
`TryFrom<…Any> for Select…` conversions): obligation lists for Lemmas/GenDispatch.lean.  Every
world-level theorem of Props/ routes handles with `routeWorld`; by `gen_world_dispatch` that is
what the generated methods do, for all key kinds and for forged archetype ids (C03: an id no
archetype has panics cleanly with "invalid entity type"; C01 / C09: a dynamic key reaches the
archetype whose ARCHETYPE_ID it carries, with the same operation; C14: it gets there through the
`TryFrom` conversion to the typed key of its own kind; C17: `destroy` by any key kind is that
archetype's `destroy`, whose log records it).
-/
import Gecs.Lemmas.GenDispatch

-- OBLIGATIONS(C01): Gecs.gen_world_dispatch Gecs.gen_world_plan
-- OBLIGATIONS(C03): Gecs.gen_world_dispatch
-- OBLIGATIONS(C09): Gecs.gen_world_dispatch
-- OBLIGATIONS(C14): Gecs.gen_world_dispatch Gecs.gen_world_plan
-- OBLIGATIONS(C17): Gecs.gen_world_dispatch

namespace Gecs

/-- The interpreter discriminates: a `resolve_contains(EntityAny)` that delegates `to_direct`
instead of `contains` is not a plan. -/
example : planT ((⟨.entityAny, .contains, .dynMatch .entity .toDirect .none⟩ : DRow) :: Gen.worldRows)
    Gen.worldTryFrom .any .contains ≠ .dyn := by decide

end Gecs
