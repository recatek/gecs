/-
C14 — Handle conversions are lossless, type-faithful and consistent with Eq/Hash.
Model: Gecs/Model/World.lean (`Key`, `mkKey`, `Key.archId`, `Key.index`, `tryFromAny`,
`fromAnyUnchecked`, `fromRaw`, `selectArch`) and Gecs/Model/Bits.lean (shift/or forms,
`hashInput`, `selectEntity`), tied to src/entity.rs and the generated Select* conversions by
the `conv`/`forge`/`create` lines of harness/rt.  For ALL 2^32 x 2^32 words and all 256 ids.
Modelled, not verified: the `&Entity<A> -> &EntityAny` reference transmutes.
-/
import Gecs.Lemmas.Bits
import Gecs.Lemmas.GenTie

-- OBLIGATIONS: Gecs.C14_pack_unpack Gecs.C14_raw_roundtrip Gecs.C14_typed_conversion Gecs.C14_select
-- OBLIGATIONS: Gecs.C14_eq_hash Gecs.C14_distinct_entities_unequal Gecs.C14_unchecked
-- OBLIGATIONS: Gecs.gen_id_bits Gecs.gen_id_range Gecs.gen_max_capacity Gecs.gen_version_max Gecs.gen_slot_encoding_sound
-- OBLIGATIONS: Gecs.packKey_eq_mkKey Gecs.keyIndex_eq Gecs.Key.index_lt Gecs.selectArch_spec Gecs.selectArchetypeId_spec

namespace Gecs

/-- `(index << 8) | id` packs and unpacks losslessly, stays a `u32`, position 2^24-1 and id
255 included; the model's arithmetic forms are the code's shift/or/truncate forms. -/
theorem C14_pack_unpack {index id : Nat} (hi : index < MAX_DATA_CAPACITY) (h : id < 256) :
    keyId (packKey index id) = id ∧ keyIndex (packKey index id) = index ∧ packKey index id < U32 ∧
    ∀ v, packKey index id = (mkKey index id v).key :=
  ⟨keyId_pack h, keyIndex_pack h, packKey_lt hi h, fun v => packKey_eq_mkKey v h⟩

/-- `from_raw(raw(h)) == h`, and `from_raw` rejects exactly a zero generation. -/
theorem C14_raw_roundtrip :
    (∀ k : Key, k.wf → fromRaw k.raw.1 k.raw.2 = some k) ∧
    (∀ key ver, fromRaw key ver = none ↔ ver = 0) ∧
    (∀ key ver k, fromRaw key ver = some k → k.raw = (key, ver)) :=
  ⟨fun _ h => fromRaw_raw h, fromRaw_none_iff, fun _ _ _ h => raw_fromRaw h⟩

/-- `into_any` followed by `try_from` / `from_any` returns the original handle exactly when
the archetype id matches, and fails (error / panic) otherwise. -/
theorem C14_typed_conversion (idA : Nat) (k k' : Key) :
    (tryFromAny idA (intoAny k) = some k' ↔ (k.archId = idA ∧ k' = k)) ∧
    (fromAny idA (intoAny k) = some k' ↔ (k.archId = idA ∧ k' = k)) ∧
    (tryFromAny idA (intoAny k) = none ↔ k.archId ≠ idA) :=
  ⟨tryFrom_iff idA k k', fromAny_iff idA k k', tryFrom_none_iff idA k⟩

/-- The generated `Select*` conversions pick the unique archetype with the handle's id and
keep the handle, or report `InvalidEntityType`. -/
theorem C14_select {ids : List Nat} (hn : ids.Nodup) (k : Key) :
    (∀ k' a, selectEntity ids k = some (a, k') ↔ (ids[a]? = some k.archId ∧ k' = k)) ∧
    (selectEntity ids k = none ↔ k.archId ∉ ids) ∧
    (∀ i, selectArchetypeId ids k = some i → i = k.archId) :=
  ⟨fun k' a => selectEntity_spec hn k k' a, selectEntity_none_iff ids k,
   fun _ h => selectArchetypeId_spec hn h⟩

/-- Equal handles hash equally; the hashed 64-bit value determines the handle. -/
theorem C14_eq_hash {k₁ k₂ : Key} (h₁ : k₁.wf) (h₂ : k₂.wf) :
    (k₁ = k₂ → hashInput k₁ = hashInput k₂) ∧ (hashInput k₁ = hashInput k₂ → k₁ = k₂) :=
  ⟨congrArg hashInput, hashInput_inj h₁ h₂⟩

/-- Handles of distinct (archetype id, position, generation) compare unequal. -/
theorem C14_distinct_entities_unequal {i₁ id₁ v₁ i₂ id₂ v₂ : Nat} (h₁ : id₁ < 256) (h₂ : id₂ < 256)
    (h : mkKey i₁ id₁ v₁ = mkKey i₂ id₂ v₂) : i₁ = i₂ ∧ id₁ = id₂ ∧ v₁ = v₂ :=
  mkKey_inj h₁ h₂ h

/-- The unchecked conversion: unconditional without debug assertions, the checked one with. -/
theorem C14_unchecked {cfg : Cfg} (idA : Nat) (k : Key) :
    (cfg.debug = false → fromAnyUnchecked cfg idA k = some k) ∧
    (cfg.debug = true → (fromAnyUnchecked cfg idA k = some k ↔ k.archId = idA)) :=
  ⟨fromAnyUnchecked_release idA k, fromAnyUnchecked_debug idA k⟩

-- non-vacuity: the boundary words satisfy the hypotheses
example : (16777215 : Nat) < MAX_DATA_CAPACITY ∧ (255 : Nat) < 256 := by decide
example : Key.wf ⟨4294967295, 4294967295⟩ := by unfold Key.wf; decide

end Gecs
