/-
C10 — A panic escaping any operation leaves the world consistent and memory-safe.
Models: Gecs/Model/Storage.lean (`Out.panic` carries the state AT the point of the panic;
`forceDestroy` = the repaired statement order, `forceDestroyPreFix` = the original order),
Gecs/Model/Query.lean (closure panics inside `ecs_iter!` / `ecs_iter_destroy!` / `ecs_find!`:
the writes already made through `&mut` stay), Gecs/Model/History.lean (`run` CONTINUES after
every panic in the state the panic left: `catch_unwind` followed by arbitrary further use).
Tied to the real code by the fault-injection / overflow profiles of harness/rt (panicking
closures, `verif_preset_versions`; the real 2^24 limit by `rt boundary`, the real 2^32 boundary by `rt cycles`).

Panic sources in the model: the two version overflows of `force_destroy`, "capacity overflow"
of `create`, "capacity may not exceed" of `with_capacity`, "invalid entity type" of the
generated `match`, every `debug_assert!`, slice index panics, and user closures panicking at
ANY call with ANY writes already made.  For ALL of them (C10_panic_leaves_invariant) the
carried world satisfies `WInv`; since every other property theorem is stated for worlds
satisfying `WInv` / storages satisfying `Inv`, "every other property still holds afterwards".
A panicking `Clone::clone` (during `world.clone()`) or `Drop::drop` (while the world is dropped)
of a component type is a separate model, Gecs/Model/Faults.lean and Gecs/Model/FaultHistory.lean;
its C10 obligations are in Gecs/Props/Faults.lean and Gecs/Props/FaultHistories.lean.

The history-level statements carry the well-scopedness hypothesis of `stepOp_spec` / `run_inv`
(`Op.Scoped`: archetype / column numbers exist — guaranteed statically in Rust).

What the model cannot exhibit (out of scope here): unwinding through real stack frames and
drop order of temporaries; release of `RefCell` guards during unwinding (covered by C11's
guard-tree model and its tie); allocation failure (`handle_alloc_error` aborts, it does not
unwind); the `Layout` overflow panic inside `DataPtr::grow` (it fires before any field is
written; unreachable below 2^24 entries for realistic component sizes); a second panic
during an unwind (it aborts).
-/
import Gecs.Lemmas.CheckSound
import Gecs.Lemmas.Robust
import Gecs.Lemmas.GenTie

-- OBLIGATIONS: Gecs.C10_panic_leaves_invariant Gecs.C10_entity_whole_or_absent Gecs.C10_use_after_panic
-- OBLIGATIONS: Gecs.C10_run_continues_after_panic Gecs.C10_overflow_is_atomic Gecs.C10_destroy_panic_is_atomic
-- OBLIGATIONS: Gecs.C10_capacity_overflow_is_atomic Gecs.C10_prefix_defect_witness
-- OBLIGATIONS: Gecs.C10_closure_panic_keeps_writes_consistent Gecs.C10_find_closure_panic
-- OBLIGATIONS: Gecs.gen_version_max Gecs.gen_max_capacity
-- OBLIGATIONS: Gecs.invCheck_iff

namespace Gecs
variable {α σ : Type}

/-- Every operation — arbitrary closures, arbitrary (forged, stale, foreign) handles — on a
world satisfying `WInv`: never `ub`; and whatever the outcome, normal return or
`.panic msg w'`, the carried world satisfies `WInv`, has the same ids, archetype count and
column schema, and each storage is reached from its predecessor by atomic steps and satisfies
`Inv` (so each entity is wholly present or wholly absent: `C10_entity_whole_or_absent`). -/
theorem C10_panic_leaves_invariant {cfg : Cfg} {w : World α} {op : Op α} (hw : WInv cfg w)
    (hc : CfgOk cfg) (hop : OpsOk cfg [op]) (hs : op.Scoped w.sch) :
    (∀ m, stepOp cfg w op ≠ .ub m)
    ∧ ∀ w', (stepOp cfg w op = .ok w' ∨ ∃ msg, stepOp cfg w op = .panic msg w') →
        WInv cfg w' ∧ w'.ids = w.ids ∧ w'.archs.length = w.archs.length ∧ w'.sch = w.sch
        ∧ ∀ (a : Nat) (s s' : Storage α), w.archs[a]? = some s → w'.archs[a]? = some s' →
            SReach cfg s s' ∧ Inv cfg s' := by
  have hsat := stepOp_sat hw op hop hs
  refine ⟨Res.sat_not_ub hsat, fun w' hw' => ?_⟩
  have r : WRel cfg w w' := by
    rcases hw' with g | ⟨m, g⟩ <;> rw [g] at hsat <;> exact hsat
  exact ⟨r.winv, r.ids, r.len, r.sch_eq, fun a s s' g1 g2 => ⟨r.reach a s s' g1 g2, r.winv.get g2⟩⟩

/-- What `Inv` says about one handle: either the entity is wholly there — listed once at a
dense index `d < len`, its slot points back to `d` with its generation, EVERY column has a
cell at `d`, and it resolves — or it is wholly absent: not listed, no slot designates it, and
it does not resolve.  There is no third, half-removed state. -/
theorem C10_entity_whole_or_absent {cfg : Cfg} {s : Storage α} (h : Inv cfg s) (e : Ent) :
    (∃ d, d < s.len ∧ s.ents[d]? = some e ∧ (∀ d', s.ents[d']? = some e → d' = d)
        ∧ s.slots[e.slot]? = some ⟨.data d, e.ver⟩
        ∧ (∀ c ∈ s.cols, ∃ x, c[d]? = some x)
        ∧ resolveEntity cfg s e = .ok (some (e.slot, d)) s)
    ∨ (e ∉ s.ents ∧ (∀ d, s.slots[e.slot]? ≠ some ⟨.data d, e.ver⟩)
        ∧ ∀ d, resolveEntity cfg s e ≠ .ok (some (e.slot, d)) s) := by
  by_cases hm : e ∈ s.ents
  · left
    obtain ⟨d, hd⟩ := List.getElem?_of_mem hm
    have hdl := h.ents_lt hd
    refine ⟨d, hdl, hd, fun d' hd' => ents_index_unique h d' d e hd' hd, h.dense d e hd,
      ?_, resolveEntity_of_mem h hd⟩
    intro c hcm
    have hc : d < c.length := by rw [h.colsLen c hcm]; exact hdl
    exact ⟨c[d], List.getElem?_eq_getElem hc⟩
  · right
    refine ⟨hm, ?_, ?_⟩
    · intro d hsl
      exact hm (List.mem_of_getElem? (h.sparse e.slot d e.ver hsl))
    · intro d hr
      exact hm ((resolveEntity_iff_mem cfg s h e).mp ⟨d, hr⟩)

/-- `run` does not stop at a panic: it goes on from the world the panic left. -/
theorem C10_run_continues_after_panic (cfg : Cfg) (w w' : World α) (op : Op α) (ops : List (Op α))
    (msg : String) (h : stepOp cfg w op = .panic msg w') :
    run cfg w (op :: ops) = run cfg w' ops := by
  simp only [run, h]

/-- Every other property still holds afterwards: a history `ops₁` containing ANY number of
panicking operations, followed by arbitrary further use `ops₂`, never reaches `ub`
(`run` is `some _`), the world between the two and the final world satisfy `WInv`, and every
storage is related to its predecessor by atomic steps. -/
theorem C10_use_after_panic {cfg : Cfg} {w : World α} {ops₁ ops₂ : List (Op α)} (hw : WInv cfg w)
    (hc : CfgOk cfg) (ho : OpsOk cfg (ops₁ ++ ops₂)) (hs : OpsScoped w.sch (ops₁ ++ ops₂)) :
    ∃ w₁ w₂, run cfg w ops₁ = some w₁ ∧ run cfg w₁ ops₂ = some w₂
      ∧ run cfg w (ops₁ ++ ops₂) = some w₂
      ∧ WInv cfg w₁ ∧ WInv cfg w₂ ∧ w₂.ids = w.ids ∧ w₂.sch = w.sch
      ∧ ∀ (a : Nat) (s s₁ s₂ : Storage α), w.archs[a]? = some s → w₁.archs[a]? = some s₁ →
          w₂.archs[a]? = some s₂ → SReach cfg s s₁ ∧ SReach cfg s₁ s₂ := by
  obtain ⟨w₁, w₂, h1, h2, h3, r1, r2⟩ := run_prefix hw ho hs
  exact ⟨w₁, w₂, h1, h2, h3, r1.winv, r2.winv, r2.ids.trans r1.ids,
    r2.sch_eq.trans r1.sch_eq,
    fun a s s₁ s₂ g g1 g2 => ⟨r1.reach a s s₁ g g1, r2.reach a s₁ s₂ g1 g2⟩⟩

/-- The two documented overflow panics of `force_destroy` (slot generation at `u32::MAX`,
archetype version at `u32::MAX`, without `wrapping_version`) leave the storage UNCHANGED:
both next versions are computed before anything is modified. -/
theorem C10_overflow_is_atomic (cfg : Cfg) (s : Storage α) (si d v : Nat) (h : Inv cfg s)
    (hsl : s.slots[si]? = some ⟨.data d, v⟩) :
    (nextVer cfg v = none → forceDestroy cfg s si d = .panic "slot version overflow" s)
    ∧ (∀ sv, nextVer cfg v = some sv → nextVer cfg s.version = none →
        forceDestroy cfg s si d = .panic "arch version overflow" s) :=
  ⟨forceDestroy_slot_overflow cfg s si d v h hsl,
   fun sv hsv hav => forceDestroy_arch_overflow cfg s si d v h hsl sv hsv hav⟩

/-- At the level of the API: EVERY panic outcome of `destroy` — by `Entity` or by
`EntityDirect` key, any words — carries the unchanged storage. -/
theorem C10_destroy_panic_is_atomic {cfg : Cfg} {s : Storage α} (h : Inv cfg s) :
    (∀ e msg s', destroyEnt cfg s e = .panic msg s' → s' = s)
    ∧ (∀ d v msg s', destroyDirect cfg s d v = .panic msg s' → s' = s) :=
  ⟨fun _ _ _ => destroyEnt_panic_state h, fun _ _ _ _ => destroyDirect_panic_state h⟩

/-- `create` at `len = MAX_DATA_CAPACITY` panics "capacity overflow" with the state unchanged,
this is its only panic, `create_within_capacity` never panics, and `World::with_capacity`
beyond `MAX_DATA_CAPACITY` panics (never `ub`). -/
theorem C10_capacity_overflow_is_atomic {cfg : Cfg} {s : Storage α} (h : Inv cfg s)
    (hv : CfgOk cfg) (g : Nat → Nat) (hg : GrowOk cfg g) (row : List α) :
    (s.len = cfg.maxCap → push cfg g s row = .panic "capacity overflow" s)
    ∧ (∀ msg s', push cfg g s row = .panic msg s' → s' = s ∧ s.len = cfg.maxCap)
    ∧ (∀ msg s', pushWithin cfg s row ≠ .panic msg s')
    ∧ (∀ (ids ncols caps : List Nat), ncols.length = caps.length →
        (∃ c ∈ caps, c > cfg.maxCap) →
        ∃ w : World α, World.withCapacity cfg ids ncols caps
          = .panic "capacity may not exceed" w) := by
  refine ⟨fun hfull => (push_overflow cfg g s row h hfull).2, ?_, ?_,
    fun ids ncols caps hl hbad => World.withCapacity_panics cfg ids ncols caps hl hbad⟩
  · intro msg s' hp
    rcases push_spec row h (hg _) with ⟨_, _, _, g1, _⟩ | ⟨hfull, g1⟩ <;> rw [g1] at hp <;> cases hp
    exact ⟨rfl, hfull⟩
  · intro msg s' hp
    by_cases hlt : s.len < s.capacity
    · obtain ⟨e, s1, g1, _⟩ := pushWithin_ok row h hlt
      rw [g1] at hp; cases hp
    · rw [pushWithin_full row (by omega)] at hp; cases hp

open RobustEx in
/-- Regression witness for the repaired defect (F1).  With the ORIGINAL statement order
(`forceDestroyPreFix`: swap-remove, event push and slot fix-up BEFORE the version bumps), a
slot-version overflow and an archetype-version overflow each leave a state that VIOLATES
`Inv` — the handle array is already one shorter than `len` — and in which using the
surviving entity's valid handle is undefined behaviour; the repaired order (`forceDestroy`)
panics with the same message and the state unchanged.  Concrete: `vmax = 2`, non-wrapping,
two entities, the first one (at generation `vmax`, resp. with the archetype version at
`vmax`) is destroyed. -/
theorem C10_prefix_defect_witness :
    ∃ (cfg : Cfg) (s₁ bad₁ s₂ bad₂ : Storage Nat),
      cfg.wrapping = false ∧ cfg.vmax = 2 ∧ Inv cfg s₁ ∧ Inv cfg s₂
      -- slot-version overflow
      ∧ forceDestroyPreFix cfg s₁ 0 0 = .panic "slot version overflow" bad₁
      ∧ ¬ Inv cfg bad₁ ∧ bad₁.ents.length ≠ bad₁.len
      ∧ (destroyEnt cfg bad₁ ⟨1, 1⟩).isUb = true
      ∧ forceDestroy cfg s₁ 0 0 = .panic "slot version overflow" s₁
      -- archetype-version overflow
      ∧ forceDestroyPreFix cfg s₂ 0 0 = .panic "arch version overflow" bad₂
      ∧ ¬ Inv cfg bad₂ ∧ bad₂.ents.length ≠ bad₂.len
      ∧ (destroyEnt cfg bad₂ ⟨1, 1⟩).isUb = true
      ∧ forceDestroy cfg s₂ 0 0 = .panic "arch version overflow" s₂ :=
  ⟨cfgF1, slotOvf, slotOvfBad, archOvf, archOvfBad, rfl, rfl, slotOvf_inv, archOvf_inv,
    slotOvf_prefix, fun h => absurd h.entsLen (by decide), by decide, rfl, slotOvf_fixed,
    archOvf_prefix, fun h => absurd h.entsLen (by decide), by decide, rfl, archOvf_fixed⟩

/-- A closure panic at ANY call of `ecs_iter!` / `ecs_iter_destroy!` over one archetype — the
closure being an arbitrary state machine that may already have written through its `&mut`
parameters and (for `ecs_iter_destroy!`) requested removals — leaves a storage that
satisfies `Inv` and is reached by atomic steps (`SReach`: each step a complete operation).  The
same holds for the other outcomes (`done`, `stop`); `ub` is impossible (`LoopOut.sat`). -/
theorem C10_closure_panic_keeps_writes_consistent {cfg : Cfg} {s : Storage α} (hs : Inv cfg s)
    (idA : Nat) (ps : List Param) (idxs : List Nat) (st : σ) :
    (∀ (f : Closure σ α Step) (version : Nat),
      (iterLoop idA ps f version idxs st s).sat (fun s' =>
        Inv cfg s' ∧ SReach cfg s s'
        ∧ (s'.ents = s.ents ∧ s'.len = s.len ∧ s'.capacity = s.capacity ∧ s'.version = s.version
            ∧ s'.slots = s.slots)
        ∧ s'.cols.length = s.cols.length ∧ s'.freeHead = s.freeHead
        ∧ s'.created = s.created ∧ s'.destroyed = s.destroyed))
    ∧ (∀ (f : Closure σ α Step4),
      (destroyLoop cfg idA ps f idxs st s).sat (fun s' =>
        Inv cfg s' ∧ SReach cfg s s' ∧ s'.capacity = s.capacity
        ∧ s'.cols.length = s.cols.length ∧ s'.len ≤ s.len))
    ∧ (∀ (f : Closure σ α Step) (version : Nat) (m : String) (st' : σ) (s' : Storage α),
        iterLoop idA ps f version idxs st s = .panic m st' s' → Inv cfg s' ∧ SReach cfg s s')
    ∧ (∀ (f : Closure σ α Step4) (m : String) (st' : σ) (s' : Storage α),
        destroyLoop cfg idA ps f idxs st s = .panic m st' s' → Inv cfg s' ∧ SReach cfg s s') := by
  refine ⟨fun f version => iterLoop_spec hs idA ps f version idxs st,
    fun f => destroyLoop_spec hs idA ps f idxs st, ?_, ?_⟩
  · intro f version m st' s' hp
    have := iterLoop_spec hs idA ps f version idxs st
    rw [hp] at this; exact ⟨this.1, this.2.1⟩
  · intro f m st' s' hp
    have := destroyLoop_spec hs idA ps f idxs st
    rw [hp] at this; exact ⟨this.1, this.2.1⟩

/-- `ecs_find!` with an arbitrary closure: on every outcome, closure panic included, the
carried world satisfies `WInv` and is a legitimate successor of the old one. -/
theorem C10_find_closure_panic {ρ : Type} {cfg : Cfg} {w : World α} (hw : WInv cfg w) (q : Query)
    (f : Closure σ α ρ) (h : Handle) (st : σ) (hq : QColsIn w.sch q) :
    (findQuery cfg q f h st w).sat (WPost cfg w)
    ∧ ∀ (m : String) (st' : σ) (w' : World α), findQuery cfg q f h st w = .panic m st' w' →
        WInv cfg w' ∧ ∀ (a : Nat) (s s' : Storage α),
          w.archs[a]? = some s → w'.archs[a]? = some s' → SReach cfg s s' := by
  have hsat := findQuery_spec hw q f h st hq
  refine ⟨hsat, ?_⟩
  intro m st' w' hp
  rw [hp] at hsat
  exact ⟨hsat.1, hsat.2.2.2.1⟩

namespace WorldEx
open StorageEx

-- `histEx` contains a forged key (the generated `match` panics), and an `ecs_iter_destroy!`
-- whose closure removes one entity and then panics; the history goes on after both
example : WInv cfgEx wEx ∧ OpsOk cfgEx histEx ∧ OpsScoped wEx.sch histEx :=
  ⟨wEx_winv cfgEx (by decide) cfgEx_ok, histEx_ok, histEx_scoped⟩

-- a panicking operation on a world with live entities: the carried world is `WInv`
example : ∃ w', stepOp cfgEx w2 (.destroy ⟨true, false, ⟨.any, 0, mkKey 0 9 1⟩, none⟩)
    = .panic "invalid entity type" w' ∧ WInv cfgEx w' :=
  ⟨w2, rfl, w2_winv⟩

example : ∃ w', stepOp cfgEx w2 (.destroy ⟨true, false, ⟨.any, 0, mkKey 0 9 1⟩, none⟩)
      = .panic "invalid entity type" w' ∧ WInv cfgEx w' ∧ w'.sch = w2.sch := by
  have h := (C10_panic_leaves_invariant (op := .destroy ⟨true, false, ⟨.any, 0, mkKey 0 9 1⟩, none⟩)
    w2_winv cfgEx_ok trivial (KeyUse.scoped_of_untyped rfl)).2 w2 (.inr ⟨_, rfl⟩)
  exact ⟨w2, rfl, h.1, h.2.2.2.1⟩

-- `histEx` split after its 9th operation (the forged key, which panics): further use is fine
example : ∃ w₁ w₂, run cfgEx wEx (histEx.take 9) = some w₁
    ∧ run cfgEx w₁ (histEx.drop 9) = some w₂ ∧ WInv cfgEx w₁ ∧ WInv cfgEx w₂ := by
  obtain ⟨w₁, w₂, h1, h2, _, h4, h5, _⟩ :=
    C10_use_after_panic (ops₁ := histEx.take 9) (ops₂ := histEx.drop 9)
      (wEx_winv cfgEx (by decide) cfgEx_ok) cfgEx_ok
      (by rw [List.take_append_drop]; exact histEx_ok)
      (by rw [List.take_append_drop]; exact histEx_scoped)
  exact ⟨w₁, w₂, h1, h2, h4, h5⟩

-- a closure that writes through `&mut` and then panics: the write stays, `Inv` holds
example : iterLoop 3 [.comp 0 true] (fun (st : Nat) _ => .panic st [some 99]) 2 [0, 1] 0 holeEx
    = .panic "closure" 0 (writeCell holeEx 0 0 99) := rfl
example : Inv cfgEx (writeCell holeEx 0 0 99) :=
  ((C10_closure_panic_keeps_writes_consistent holeEx_inv 3 [.comp 0 true] [0, 1] (0 : Nat)).2.2.1
    (fun st _ => .panic st [some 99]) 2 _ _ _ rfl).1

-- `ecs_find!` on a live key with a closure that writes and panics
def panicking : Closure Nat Nat Unit := fun st _ => .panic st [some 5]
example : ∃ w', findQuery cfgEx [⟨0, [.comp 1 true]⟩] panicking ⟨.any, 0, mkKey 2 3 1⟩ 0 w2
      = .panic "closure" 0 w' ∧ WInv cfgEx w' := by
  have hq : QColsIn w2.sch [⟨0, [.comp 1 true]⟩] := by
    intro qa hqa
    simp only [List.mem_cons, List.not_mem_nil, or_false] at hqa
    subst hqa
    refine ⟨2, rfl, ?_⟩
    intro c m hc
    simp only [List.mem_cons, Param.comp.injEq, List.not_mem_nil, or_false] at hc
    omega
  have hp : findQuery cfgEx [⟨0, [.comp 1 true]⟩] panicking ⟨.any, 0, mkKey 2 3 1⟩ 0 w2
      = .panic "closure" 0 (w2.setArch 0 (writeCell holeEx 1 1 5)) := rfl
  exact ⟨_, hp, ((C10_find_closure_panic w2_winv _ panicking _ _ hq).2 _ _ _ hp).1⟩

-- `create` at the hard limit (`cfgTiny.maxCap = 2`, `fullEx` full): atomic panic
example : push cfgTiny (codeGrowth cfgTiny) fullEx [12] = .panic "capacity overflow" fullEx :=
  (C10_capacity_overflow_is_atomic fullEx_inv_tiny ⟨by decide⟩ _
    (fun c hc => codeGrowth_ok cfgTiny c hc) [12]).1 rfl
-- a `destroy` panic (debug assertion on a forged out-of-range key): state unchanged
example : destroyEnt cfgEx holeEx ⟨7, 1⟩ = .panic "debug_assert: invalid entity handle" holeEx :=
  rfl

-- the overflow hypotheses are satisfiable (`ovfEx`: a slot at `vmax`; `archOvfEx`)
example : forceDestroy cfgEx ovfEx 0 0 = .panic "slot version overflow" ovfEx :=
  (C10_overflow_is_atomic cfgEx ovfEx 0 0 5 ovfEx_inv rfl).1 (by decide)
example : forceDestroy cfgEx archOvfEx 0 0 = .panic "arch version overflow" archOvfEx :=
  (C10_overflow_is_atomic cfgEx archOvfEx 0 0 1 archOvfEx_inv rfl).2 2 (by decide) (by decide)

end WorldEx
end Gecs

section
open Gecs
#print axioms C10_panic_leaves_invariant
#print axioms C10_entity_whole_or_absent
#print axioms C10_run_continues_after_panic
#print axioms C10_use_after_panic
#print axioms C10_overflow_is_atomic
#print axioms C10_destroy_panic_is_atomic
#print axioms C10_capacity_overflow_is_atomic
#print axioms C10_prefix_defect_witness
#print axioms C10_closure_panic_keeps_writes_consistent
#print axioms C10_find_closure_panic
end
