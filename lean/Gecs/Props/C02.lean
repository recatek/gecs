/-
C02 — Every access path returns the entity's own, latest component values.
Model: Gecs/Model/Storage.lean (N parallel columns, any N), read through `readRow` /
`rowAt` at the resolved dense index by every path (view, borrow, find, slices, iterators,
the value returned by destroy); tied to the real code by the `probe` / `write` / `rows` /
query lines of harness/rt over archetypes of 1, 2, 3, 5, 16 (32) columns with zero-sized,
align-1/8/16 and heap-owning component types.
Specification: the association list `view s` (entity ↦ row) updated by `applyLbl`, i.e. an
abstract map: create inserts, destroy erases, a write updates the row of the designated
entity, clone maps.  History = labelled path (`LReach`, Lemmas/Labelled.lean).
Modelled, not verified: that `DataPtr::{write, slice, swap_remove, grow}` implement
append / index / swap-remove / copy on real memory for every `T`.
World-history forms of these theorems (for every finite history of the world API): Props/Histories.lean.
-/
import Gecs.Lemmas.Values

-- OBLIGATIONS: Gecs.C02_refinement Gecs.C02_read_after_history Gecs.C02_create Gecs.C02_destroy_returns_own
-- OBLIGATIONS: Gecs.C02_write_seen_by_all Gecs.C02_read_paths Gecs.lookup_applyLbl_created
-- OBLIGATIONS: Gecs.lookup_applyLbl_destroyed Gecs.lookup_applyLbl_write Gecs.lookup_applyLbl_clone
-- OBLIGATIONS: Gecs.comp_cell_eq_valueOf Gecs.resolveDirect_reads_valueOf

namespace Gecs
variable {α : Type}

/-- Refinement: after any history the storage's (entity ↦ row) view is the abstract map
obtained by applying the history's labels — for every number of columns. -/
theorem C02_refinement {cfg : Cfg} {s s' : Storage α} {L : List (Lbl α)} (h : Inv cfg s)
    (hr : RowsOk s.cols.length L) (r : LReach cfg s L s') (e : Ent) :
    valueOf s' e = (L.foldl applyLbl (view s)).lookup e :=
  lreach_values h hr r e

/-- Every read after a history returns what the abstract map says: resolve a handle in the final
state, read the row at the resolved index. -/
theorem C02_read_after_history {cfg : Cfg} {s s' s₁ : Storage α} {L : List (Lbl α)} (h : Inv cfg s)
    (hr : RowsOk s.cols.length L) (r : LReach cfg s L s') {e : Ent} {si d : Nat}
    (hres : resolveEntity cfg s' e = .ok (some (si, d)) s₁) :
    readRow s' d = (L.foldl applyLbl (view s)).lookup e := by
  rw [(resolveEntity_reads_valueOf (lockstep h r) hres).2.1, lreach_values h hr r]

/-- Frame rule, creation: the new entity has the values passed to create; nobody else's change. -/
theorem C02_create {cfg : Cfg} {s s' : Storage α} {e : Ent} {row : List α} (h : Inv cfg s)
    (hr : row.length = s.cols.length) (st : LStep cfg s (.created e row) s') :
    valueOf s' e = some row ∧ valueOf s e = none
      ∧ (∀ x, x ≠ e → valueOf s' x = valueOf s x)
      ∧ (∀ x ∈ s.ents, valueOf s' x = valueOf s x)
      ∧ s'.cols.length = s.cols.length :=
  created_values h hr st

/-- Frame rule, removal: destroy returns the entity's own row; every other entity keeps its
values although the last entity is relocated (all columns move in lock-step). -/
theorem C02_destroy_returns_own {cfg : Cfg} {s s' : Storage α} {t : Ent} {row : List α} (h : Inv cfg s)
    (st : LStep cfg s (.destroyed t row) s') :
    valueOf s t = some row ∧ valueOf s' t = none
      ∧ (∀ x, x ≠ t → valueOf s' x = valueOf s x)
      ∧ row.length = s.cols.length ∧ s'.cols.length = s.cols.length :=
  destroyed_values h st

/-- A write made through one path is seen by all the others (they all read `valueOf`),
and changes nobody else. -/
theorem C02_write_seen_by_all {cfg : Cfg} {s s' : Storage α} {d c : Nat} {x : α} (h : Inv cfg s)
    (st : LStep cfg s (.write d c x) s') :
    s'.ents = s.ents
      ∧ (∀ t, s.ents[d]? = some t → valueOf s' t = (valueOf s t).map (·.set c x))
      ∧ (∀ y, s.ents[d]? ≠ some y → valueOf s' y = valueOf s y)
      ∧ s'.cols.length = s.cols.length :=
  write_values h st

/-- All read paths agree: the row read at the resolved index is the entity's value. -/
theorem C02_read_paths {cfg : Cfg} {s : Storage α} (h : Inv cfg s) {d : Nat} {e : Ent}
    (hd : s.ents[d]? = some e) : readRow s d = valueOf s e :=
  readRow_eq_valueOf h hd

end Gecs

section
open Gecs
#print axioms C02_read_after_history
end
