/-
C06 — Iteration visits every matching live entity exactly once with its own data.
Model: `iterLoop` / `iterQuery` in Gecs/Model/Query.lean — the `for idx in 0..len` loop the
generators of macros/src/generate/query.rs emit for `ecs_iter!` / `ecs_iter_borrow!`
(`version` and `len` read before the loop, arguments bound from the slices at `idx`,
`Break` returns out of the closure wrapping all archetype blocks); `Archetype::iter/iter_mut`,
`entities()` and the slice accessors are the same `0..len` prefix of the same arrays.
Tie: the `iter`/`iterb`/`rows` lines of harness/rt (per-call argument logs of the real
macros; every slice/iterator path compared in `rows`).
User closures are arbitrary state machines; what they were called with is observed by
wrapping them (`recR`), which provably does not change the run (`*_recR_sim`).
Hypotheses.  The per-archetype theorems take `Inv cfg s`, which holds in every reachable state
(empty archetypes, exactly full, after removals at any position), and, `C06_handles_distinct`
excepted, `ColsExist s ps`: the columns the parameters are bound to exist, which the macro
expansion guarantees (a query only names components of the archetypes it matches; without it the
first step panics, `Loops.iterLoop_bad_col`).  `C06_count_is_sum_of_len` takes their world-level
forms `WInv` and `QueryOk`.  `C06_only_components_change` and `C06_break_stops_all_archetypes`
take none.
-/
import Gecs.Lemmas.Loops

-- OBLIGATIONS: Gecs.C06_visits_in_dense_order Gecs.C06_each_live_entity_once Gecs.C06_handles_distinct
-- OBLIGATIONS: Gecs.C06_only_components_change Gecs.C06_break_stops_all_archetypes Gecs.C06_count_is_sum_of_len
-- OBLIGATIONS: Gecs.Loops.iterLoop_recR_sim Gecs.Loops.iterLoop_bad_col Gecs.Loops.iterQuery_not_ub

namespace Gecs
open Gecs.Loops
variable {α σ : Type}

/-- The closure is called for dense indices `0, 1, …` in order, each time with exactly what
the slices hold at that index in the storage the loop started from — the entity's own
handle, its own cells, the direct handle `(idx, version)` — up to the first `Break` or
panic; it runs to `len` otherwise.  (The values are those of the initial storage because the
calls before call `d` wrote rows `< d` only: `iterLoop_trace`.) -/
theorem C06_visits_in_dense_order {cfg : Cfg} {s : Storage α} (h : Inv cfg s) (idA : Nat)
    {ps : List Param} (hps : ColsExist s ps) (f : Closure σ α Step) (st : σ) :
    ∃ (k : Nat) (log : List (Call α Step)), k ≤ s.len
      ∧ (iterLoop idA ps (recR f) s.version (List.range s.len) (st, []) s).log? = some log
      ∧ log.map (fun c => some c.args)
          = (List.range k).map (fun d => bindArgs idA s s.version d ps)
      ∧ ((∃ t' s', iterLoop idA ps (recR f) s.version (List.range s.len) (st, []) s = .done t' s'
            ∧ k = s.len ∧ log.map (·.res) = List.replicate k (some .cont))
        ∨ (∃ t' s' j, iterLoop idA ps (recR f) s.version (List.range s.len) (st, []) s
              = .stop t' s'
            ∧ k = j + 1 ∧ log.map (·.res) = List.replicate j (some .cont) ++ [some .brk])
        ∨ (∃ t' s' j, iterLoop idA ps (recR f) s.version (List.range s.len) (st, []) s
              = .panic "closure" t' s'
            ∧ k = j + 1 ∧ log.map (·.res) = List.replicate j (some .cont) ++ [none])) := by
  obtain ⟨k, new, hk, hlog, hmap, hend⟩ := iterLoop_trace_inv h idA hps f (st, [])
  refine ⟨k, new, hk, hlog, hmap, ?_⟩
  cases ho : iterLoop idA ps (recR f) s.version (List.range s.len) (st, []) s <;> rw [ho] at hend
  · exact .inl ⟨_, _, rfl, hend⟩
  · obtain ⟨j, h1, h2⟩ := hend; exact .inr (.inl ⟨_, _, j, rfl, h1, h2⟩)
  · obtain ⟨rfl, j, h1, h2⟩ := hend; exact .inr (.inr ⟨_, _, j, rfl, h1, h2⟩)
  · exact hend.elim

/-- Run to the end, an entity parameter received the handles of the dense array in order:
each live entity exactly once, nothing else, `len` items. -/
theorem C06_each_live_entity_once {cfg : Cfg} {s : Storage α} (h : Inv cfg s) (idA : Nat)
    {ps : List Param} (hps : ColsExist s ps) (f : Closure σ α Step) (st : σ)
    {t' : σ × List (Call α Step)} {s' : Storage α}
    (hdone : iterLoop idA ps (recR f) s.version (List.range s.len) (st, []) s = .done t' s')
    {i : Nat} {p : Param} (hi : ps[i]? = some p) (hp : p = .ent ∨ p = .entAny) :
    t'.2.map (fun c => c.args[i]?)
      = s.ents.map (fun e => some (Arg.ent (mkKey e.slot idA e.ver))) := by
  obtain ⟨k, log, _, hlog, hmap, hend⟩ := iterLoop_trace_inv h idA hps f (st, [])
  rw [hdone] at hlog hend
  cases Option.some.inj hlog
  obtain ⟨rfl, _⟩ := hend
  have hlen : t'.2.length = s.len := by simpa using congrArg List.length hmap
  refine map_eq_map_of_getElem? (by rw [hlen, h.entsLen]) fun d c e hd he => ?_
  have hb : bindArgs idA s s.version d ps = some c.args := by
    have := congrArg (fun l => l[d]?) hmap
    simpa [hd, List.getElem?_range (hlen ▸ (List.getElem?_eq_some_iff.mp hd).1)] using this.symm
  obtain ⟨a, ha, hba⟩ := bindArgs_getElem? hb hi
  obtain ⟨e', he', rfl⟩ := bindArg_ent_eq hp hba
  cases he.symm.trans he'
  exact ha

/-- The handles of the dense array (those of `C06_each_live_entity_once`), as keys of archetype
`idA`, are pairwise distinct. -/
theorem C06_handles_distinct {cfg : Cfg} {s : Storage α} (h : Inv cfg s) (idA : Nat) :
    (s.ents.map (fun e => mkKey e.slot idA e.ver)).Nodup := by
  have hnd := ents_nodup h
  rw [List.nodup_iff_pairwise_ne] at hnd ⊢
  rw [List.pairwise_map]
  refine hnd.imp fun {a b} hab heq => hab ?_
  -- the same id on both sides cancels: no bound on `idA` is needed
  obtain ⟨hk, hv⟩ := Key.mk.inj heq
  cases a; cases b
  cases Nat.eq_of_mul_eq_mul_right (by decide : 0 < ID_RANGE) (Nat.add_right_cancel hk)
  cases hv; rfl

/-- Iteration changes nothing but cells of the columns bound `&mut`, at the rows visited
(`WFrame`).  About a cell of such a column at a visited row nothing is said, written or not. -/
theorem C06_only_components_change (idA : Nat) (ps : List Param) (f : Closure σ α Step) (v : Nat)
    (idxs : List Nat) (st : σ) (s s' : Storage α)
    (h : (iterLoop idA ps f v idxs st s).stor? = some s') : WFrame idxs ps s s' :=
  iterLoop_frame idA ps f v idxs st s s' h

/-- `Break` ends the whole query at once, across all archetypes: a call that did not answer
`Continue` is the last call. -/
theorem C06_break_stops_all_archetypes (cfg : Cfg) (f : Closure σ α Step) (q : Query) (st : σ)
    (w : World α) (log : List (Call α Step))
    (hlog : (iterQuery cfg (recR f) q (st, []) w).log? = some log) :
    ∀ k c, log[k]? = some c → c.res ≠ some .cont → log.length = k + 1 := by
  obtain ⟨new, rfl, hcp, _⟩ := iterQuery_shape cfg f q (st, []) w log hlog
  exact fun k c hk hc => hcp.last_of_not hk hc

/-- Without a `Break` the number of calls is the sum of `len()` over the matched archetypes (an
archetype listed twice is visited twice and counted twice: no `Nodup` hypothesis on the query);
the query returns, or the closure panicked and that call is the last recorded one. -/
theorem C06_count_is_sum_of_len {cfg : Cfg} {w : World α} (hw : WInv cfg w) {q : Query}
    (hq : QueryOk w q) (f : Closure σ α Step) (st : σ) :
    ∃ log, (iterQuery cfg (recR f) q (st, []) w).log? = some log
      ∧ ((∃ t' w', iterQuery cfg (recR f) q (st, []) w = .ok t' w')
        ∨ (∃ t' w' init c, iterQuery cfg (recR f) q (st, []) w = .panic "closure" t' w'
            ∧ log = init ++ [c] ∧ c.res = none))
      ∧ ((∀ c ∈ log, c.res = some .cont) →
          log.length = (q.map (fun qa => archLen w qa.a)).sum) := by
  rcases iterQuery_cases f q st [] w hw hq with ⟨t', w', ho⟩ | ⟨t', w', ho⟩
  all_goals
    have hlog : (iterQuery cfg (recR f) q (st, []) w).log? = some t'.2 := by rw [ho]; rfl
    obtain ⟨new, h1, _, h4⟩ := iterQuery_shape cfg f q (st, []) w t'.2 hlog
    rw [List.nil_append] at h1
    subst h1
    rw [ho] at h4
  · exact ⟨_, hlog, .inl ⟨t', w', ho⟩, h4⟩
  · rcases h4 with ⟨_, init, c, hi, hc⟩ | hm
    · refine ⟨_, hlog, .inr ⟨t', w', init, c, ho, hi, hc⟩, fun hall => ?_⟩
      have := hall c (by rw [hi]; simp)
      rw [hc] at this; cases this
    · exact absurd hm (by decide)

namespace Loops

/-- C06 for `recArgs f`: the recorded argument lists are, in order, what `bindArgs` binds at
`d = 0, 1, …, k-1` in the initial storage, and `k = len` if the loop ran to the end. -/
theorem iterLoop_visits_recArgs {cfg : Cfg} {s : Storage α} (h : Inv cfg s) (idA : Nat)
    {ps : List Param} (hps : ColsExist s ps) (f : Closure σ α Step) (st : σ) :
    ∃ (k : Nat) (calls : List (List (Arg α))), k ≤ s.len
      ∧ (iterLoop idA ps (recArgs f) s.version (List.range s.len) (st, []) s).log? = some calls
      ∧ calls.map some = (List.range k).map (fun d => bindArgs idA s s.version d ps)
      ∧ (∀ t' s', iterLoop idA ps (recArgs f) s.version (List.range s.len) (st, []) s
            = .done t' s' → k = s.len) := by
  obtain ⟨k, log, hk, hlog, hmap, hend⟩ := iterLoop_trace_inv h idA hps f (st, [])
  have hsim := iterLoop_recR_recArgs idA ps f s.version (List.range s.len) st [] s
  rw [List.map_nil] at hsim
  refine ⟨k, log.map Call.args, hk, ?_, by simpa [Function.comp_def] using hmap, ?_⟩
  · rw [← hsim, LoopOut.log?_forgetRes, hlog]; rfl
  · intro t' s' hd
    rw [← hsim] at hd
    cases ho : iterLoop idA ps (recR f) s.version (List.range s.len) (st, []) s <;>
      rw [ho] at hd hend
    · exact hend.1
    all_goals cases hd

/-! Non-vacuity, on the storage `triEx` and the world `worldEx` of Lemmas/Loops.lean -/
namespace LoopsEx
open StorageEx

/-- The hypotheses of `C06_visits_in_dense_order` / `C06_each_live_entity_once` hold on `triEx`. -/
example := C06_visits_in_dense_order triEx_inv 7 psEx_cols fIterEx 0

/-- `C06_each_live_entity_once` applies to the closure that never breaks (`hdone` holds by
computation). -/
example :=
  C06_each_live_entity_once triEx_inv 7 (ps := [.ent]) (by intro p hp c m h; simp at hp; subst hp; cases h)
    (fun (n : Nat) _ => .ret (n + 1) [] .cont) 0 (hdone := rfl) (i := 0) rfl (.inl rfl)

example := C06_count_is_sum_of_len worldEx_inv queryEx_ok fIterEx 0

/-- `C06_break_stops_all_archetypes` on the run of `fIterEx` over `queryEx`: the `Break` at call 1
is the last call. -/
example : ∀ log, (iterQuery cfgEx (recR fIterEx) queryEx (0, []) worldEx).log? = some log →
    log.length = 1 + 1 := fun log hlog =>
  C06_break_stops_all_archetypes cfgEx fIterEx queryEx 0 worldEx log hlog 1
    ⟨[.ent (mkKey 1 7 1), .dir (mkKey 1 7 1), .comp true 11], some .brk⟩
    (by rw [← Option.some.inj hlog]; rfl) (by simp)

end LoopsEx
end Loops
end Gecs

section
open Gecs
#print axioms C06_visits_in_dense_order
#print axioms C06_each_live_entity_once
#print axioms C06_handles_distinct
#print axioms C06_break_stops_all_archetypes
#print axioms C06_count_is_sum_of_len
#print axioms Loops.iterLoop_visits_recArgs
end
