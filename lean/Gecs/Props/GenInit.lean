/-
`StorageN::with_capacity` and `clear_events` TRANSLATED statement by statement
(Gen/Steps.lean: `withCapacitySteps`, `withCapacityFields`, `clearEventsSteps`): obligation lists
for Lemmas/GenInit.lean and the consequences in the words of C12 / C17.
-/
import Gecs.Lemmas.GenInit
import Gecs.Lemmas.StorageOps

-- OBLIGATIONS(C12): Gecs.gen_steps_with_capacity Gecs.GenInit_C12_with_capacity
-- OBLIGATIONS(C17): Gecs.gen_steps_clear_events Gecs.GenInit_C17_clear_only_logs
-- OBLIGATIONS(C08): Gecs.gen_steps_with_capacity
-- OBLIGATIONS(C10): Gecs.gen_steps_with_capacity

namespace Gecs

variable {α : Type}

/-- C12: `with_capacity(n)`, as extracted, panics exactly above the limit and otherwise yields an
empty storage of capacity exactly `n` at the start version. -/
theorem GenInit_C12_with_capacity (cfg : Cfg) (ncols cap : Nat) :
    (cap > cfg.maxCap →
      ∃ s, execWithCapacity (α := α) cfg Gen.withCapacitySteps Gen.withCapacityFields ncols cap
            = .panic "capacity may not exceed" s)
    ∧ (cap ≤ cfg.maxCap →
      ∃ s, execWithCapacity (α := α) cfg Gen.withCapacitySteps Gen.withCapacityFields ncols cap = .ok () s
        ∧ s.len = 0 ∧ s.capacity = cap ∧ s.version = VERSION_START ∧ s.created = [] ∧ s.destroyed = []) := by
  rw [gen_steps_with_capacity]
  exact ⟨withCapacity_panics cfg ncols cap,
    fun h => ⟨_, withCapacity_eq cfg ncols cap h, rfl, rfl, rfl, rfl, rfl⟩⟩

/-- C17: `clear_events`, as extracted, empties both logs and changes nothing else. -/
theorem GenInit_C17_clear_only_logs (s : Storage α) :
    ∃ s', runE Gen.clearEventsSteps s = some s' ∧ s'.created = [] ∧ s'.destroyed = []
      ∧ s'.slots = s.slots ∧ s'.ents = s.ents ∧ s'.cols = s.cols ∧ s'.len = s.len
      ∧ s'.capacity = s.capacity ∧ s'.version = s.version ∧ s'.freeHead = s.freeHead :=
  ⟨clearEvents s, gen_steps_clear_events s, rfl, rfl, rfl, rfl, rfl, rfl, rfl, rfl, rfl⟩

end Gecs
