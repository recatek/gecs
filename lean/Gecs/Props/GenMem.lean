/-
`DataPtr::swap_remove` / `drop_to` TRANSLATED statement by statement (Gen/Steps.lean:
`dataSwapRemoveSteps`, `dataDropToSteps`) over a memory of initialised / dead cells: obligation
lists for Lemmas/GenMem.lean.  This is the link between the list-level `swapRemove` / `take len`
the storage model computes with and the pointer statements of the code: the removed value is read
out exactly once, the last value is bit-copied into its place and its old cell is dead afterwards
(no double drop, C04; the moved entity keeps its own data, C02); `drop_to(len)` drops exactly the
first `len` values, unconditionally (zero-sized types included), each once.
-/
import Gecs.Lemmas.GenMem

-- OBLIGATIONS(C04): Gecs.gen_mem_swap_remove Gecs.gen_mem_drop_to
-- OBLIGATIONS(C02): Gecs.gen_mem_swap_remove
-- OBLIGATIONS(C10): Gecs.gen_mem_swap_remove Gecs.gen_mem_drop_to

namespace Gecs

/-- Non-vacuity: removing the middle of three. -/
example : execDataSwapRemove Gen.dataSwapRemoveSteps [some 10, some 11, some 12, none] 1 3
    = some (11, [some 10, some 12, none, none]) := by decide +kernel

end Gecs
