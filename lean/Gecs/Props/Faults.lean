/-
C10 / C04 — what a PANICKING `Clone::clone` (during `world.clone()`) or `Drop::drop` (while a world
is dropped) leaves behind, for every world, every fault position `k` and any mix of zero-sized
values: definitions in Gecs/Model/Faults.lean (`cloneFault`, `dropFault` — the functions the
trace driver uses to predict the implementation's registry; `cloneFault_counts` and
`dropFault_driver`, also there, tie them to the counts-only formulation `cloneFaultCounts` /
`dropFaultDriver`), the other theorems in Gecs/Lemmas/Faults.lean.  In words:
 * clone: every clone that was made before the fault is, exactly once and in clone order,
   either dropped during the unwind (those of the archetypes cloned completely) or leaked
   (those of the partially cloned archetype); nothing after the fault point is cloned; the
   source world is not touched (the functions do not take it as a state);
 * drop: the values dropped and the values leaked partition everything the world owned
   (permutation; duplicate-free if the world's values are); the leak is the rest of exactly ONE
   archetype, starting right after the value whose `Drop` panicked; every other archetype is
   dropped.  No value is dropped twice on either path.
Leak-on-panic itself is not among the guarantees of C10; "no component is dropped twice or
left readable after being freed" is.
-/
import Gecs.Lemmas.Faults

-- OBLIGATIONS(C10): Gecs.cloneFault_some_iff Gecs.cloneFault_prefix Gecs.cloneFault_dropped_whole_archetypes
-- OBLIGATIONS(C10): Gecs.dropFault_some_iff Gecs.dropFault_partition Gecs.dropFault_nodup Gecs.dropFault_leak_one_archetype
-- OBLIGATIONS(C10): Gecs.cloneFault_counts Gecs.dropFault_driver Gecs.World.drop_ok_eq_flatten
-- OBLIGATIONS(C04): Gecs.dropFault_partition Gecs.dropFault_nodup Gecs.cloneFault_prefix

namespace Gecs
#check @cloneFault_prefix
#check @dropFault_partition
end Gecs
